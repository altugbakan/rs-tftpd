/-!
What the server's and the client's argument parser have in common, for an arbitrary type `γ` of flag
groups folded into an arbitrary configuration `κ`: a parser that consumes one group at a time consumes a
vector of groups by folding, and a field of the folded configuration holds the last value that some group
selected for it — the last element of `gs.filterMap sel`.
-/
namespace Tftp

theorem parse_flatMap_append {τ γ κ ρ : Type} (parse : List τ → κ → ρ) (tokens : γ → List τ)
    (apply : γ → κ → κ) (gs : List γ)
    (hstep : ∀ g ∈ gs, ∀ rest c, parse (tokens g ++ rest) c = parse rest (apply g c))
    (tail : List τ) (c : κ) :
    parse (gs.flatMap tokens ++ tail) c = parse tail (gs.foldl (fun c g => apply g c) c) := by
  induction gs generalizing c with
  | nil => rfl
  | cons g gs ih =>
    rw [List.flatMap_cons, List.append_assoc, hstep g List.mem_cons_self, List.foldl_cons]
    exact ih (fun x hx => hstep x (List.mem_cons_of_mem g hx)) _

theorem foldl_getLast?_filterMap {γ κ α : Type} (apply : γ → κ → κ) (sel : γ → Option α) (f : κ → α)
    (hstep : ∀ g c, f (apply g c) = (sel g).getD (f c)) (gs : List γ) (c : κ) :
    f (gs.foldl (fun c g => apply g c) c) = (gs.filterMap sel).getLast?.getD (f c) := by
  induction gs generalizing c with
  | nil => rfl
  | cons g gs ih =>
    rw [List.foldl_cons, ih, hstep, List.filterMap_cons]
    cases sel g with
    | none => rfl
    | some a =>
      show _ = (a :: gs.filterMap sel).getLast?.getD (f c)
      rw [List.getLast?_cons]
      cases (gs.filterMap sel).getLast? <;> rfl

theorem perm_short_eq {α : Type} {l1 l2 : List α} (hp : l1.Perm l2) (h : l1.length ≤ 1) : l1 = l2 := by
  cases l1 with
  | nil => exact (List.nil_perm.mp hp).symm
  | cons a t =>
    cases t with
    | nil => exact List.singleton_perm.mp hp
    | cons b t => exact absurd (Nat.le_of_succ_le_succ h) (Nat.not_succ_le_zero _)

/-- a setting named at most once has the same last value in every order -/
theorem getLast?_filterMap_perm {γ α : Type} (sel : γ → Option α) {gs1 gs2 : List γ} (hp : gs1.Perm gs2)
    (h : (gs1.filterMap sel).length ≤ 1) :
    (gs1.filterMap sel).getLast? = (gs2.filterMap sel).getLast? := by
  rw [perm_short_eq (hp.filterMap sel) h]

end Tftp
