import Tftp.Model.Receiver
import Tftp.Lemmas.Window
/-!
The receiver (`receive_file`): its invariant `RInv`, its transition function as a decision followed by a flush and
case by case (as equations), the states reachable under every arrival history (`RReach`; `RReachFrom` when a
conformant sender feeds it), and the same in block counts for a receiver that is fed the blocks of one file in the
closed loop (`RWait`).
-/
namespace Tftp

/-- accepted payloads, oldest first -/
def RState.received (s : RState) : List Bytes := s.accepted.reverse

structure RInv (c : RCfg) (s : RState) : Prop where
  bn_eq : s.bn = s.accepted.length % 65536
  stored : s.win.file.content ++ s.win.elems.flatten = s.received.flatten
  pend_lt : s.win.elems.length < c.w
  size_eq : s.win.size = c.w
  can_write : s.win.file.canWrite = true
  -- while running every accepted block is a full one: the final block has not come yet
  full_before : s.status = .running → ∀ p ∈ s.accepted, c.b ≤ p.length
  -- after success the newest accepted block is the only short one
  ok_final : s.status = .ok → s.win.elems = [] ∧
    ∃ p rest, s.accepted = p :: rest ∧ p.length < c.b ∧ ∀ q ∈ rest, c.b ≤ q.length

/-- what the in-sequence step needs of the state: fewer than `windowsize` blocks pending in a window of that size over a
writable file (part of the invariant; C08 states it as what holds between two transitions) -/
def RPending (c : RCfg) (s : RState) : Prop :=
  s.win.elems.length < c.w ∧ s.win.size = c.w ∧ s.win.file.canWrite = true

theorem RInv.w_pos {c : RCfg} {s : RState} (h : RInv c s) : 0 < c.w := Nat.lt_of_le_of_lt (Nat.zero_le _) h.pend_lt

theorem RInv.pending {c : RCfg} {s : RState} (h : RInv c s) : RPending c s := ⟨h.pend_lt, h.size_eq, h.can_write⟩

/-- the state right after buffering an in-sequence block (before any flush) -/
def RState.accept (s : RState) (n : Nat) (p : Bytes) : RState :=
  { s with bn := n, win := { s.win with elems := s.win.elems ++ [p] }, retry := 0, accepted := p :: s.accepted }

theorem RState.received_accept (s : RState) (n : Nat) (p : Bytes) : (s.accept n p).received = s.received ++ [p] :=
  List.reverse_cons

theorem RState.received_length (s : RState) : s.received.length = s.accepted.length := List.length_reverse

/-- the state after `window.empty()` on a writable file -/
def RState.flushed (s : RState) : RState :=
  { s with win := { s.win with elems := [], file := s.win.elems.foldl FileSt.write s.win.file } }

theorem flushAck_eq (c : RCfg) {s : RState} (hcw : s.win.file.canWrite = true) :
    flushAck c s = (s.flushed, ackOut c.rep s.bn s.flushed.win.file) := by
  rw [flushAck, Window.empty_eq hcw]
  rfl

/-! ### `receive_file` as a decision followed by a flush -/

/-- what `receive_file` does with an event: it moves to the state `t` and then sends nothing (`stay`), or flushes the window and
acknowledges (`flush`), or does so for the last time (`finish`) -/
inductive RAct where
  | stay (t : RState)
  | flush (t : RState)
  | finish (t : RState)

def RAct.state : RAct → RState
  | .stay t | .flush t | .finish t => t

/-- the decision reads the block size and the state, not the repeat count and not what the target can take -/
def rDecide (b : Nat) (s : RState) (ev : REv) : RAct :=
  match s.status with
  | .running =>
    match ev with
    | .data n p =>
      if n = (s.bn + 1) % 65536 then
        if s.win.len = s.win.size then .stay { s with status := .failed }
        else if p.length < b then .finish (s.accept n p)
        else if (s.accept n p).win.isFull then .flush (s.accept n p)
        else .stay (s.accept n p)
      else if n = s.bn && !s.win.isEmpty then .stay s
      else .flush s
    | .error => .stay { s with status := .failed }
    | .fail =>
      if s.retry + 1 = Gen.maxRetries then .stay { s with retry := s.retry + 1, status := .failed }
      else .stay { s with retry := s.retry + 1 }
  | _ => .stay s

def RAct.run (c : RCfg) : RAct → RState × List AckObs
  | .stay t => (t, [])
  | .flush t => flushAck c t
  | .finish t => markOk (flushAck c t)

theorem rStep_eq (c : RCfg) (s : RState) (ev : REv) : rStep c s ev = (rDecide c.b s ev).run c := by
  obtain ⟨bn, win, retry, status, accepted⟩ := s
  cases status with
  | running =>
    cases ev with
    | error => rfl
    | fail => simp only [rStep, rDecide, apply_ite (RAct.run c)]; rfl
    | data n p =>
      by_cases hfull : win.len = win.size
      · simp only [rStep, rDecide, apply_ite (RAct.run c), hfull, Window.add_full p hfull, ↓reduceIte]; rfl
      · simp only [rStep, rDecide, apply_ite (RAct.run c), hfull, Window.add_eq p hfull, ↓reduceIte]; rfl
  | ok | failed => rfl

/-! ### the transition function, case by case -/

theorem rStep_ended (c : RCfg) (s : RState) (ev : REv) (h : s.status = .ok ∨ s.status = .failed) :
    rStep c s ev = (s, []) := by
  unfold rStep
  rcases h with h | h <;> simp [h]

theorem rStep_error (c : RCfg) {s : RState} (h : s.status = .running) :
    rStep c s .error = ({ s with status := .failed }, []) := by
  simp only [rStep, h]

theorem rStep_fail (c : RCfg) {s : RState} (h : s.status = .running) :
    rStep c s .fail =
      (if s.retry + 1 = Gen.maxRetries then { s with retry := s.retry + 1, status := .failed }
       else { s with retry := s.retry + 1 }, []) := by
  simp only [rStep, h]
  split <;> rfl

theorem rStep_giveup (c : RCfg) {r : RState} (hrun : r.status = .running) (hr : r.retry + 1 = Gen.maxRetries) :
    rStep c r .fail = ({ r with retry := Gen.maxRetries, status := .failed }, []) := by
  rw [rStep_fail c hrun, if_pos hr, hr]

theorem flushAck_frame (c : RCfg) (s : RState) :
    ∃ w st, (flushAck c s).1 = { s with win := w, status := st } ∧ (st = s.status ∨ st = .failed) := by
  unfold flushAck
  split
  · exact ⟨_, _, rfl, Or.inl rfl⟩
  · exact ⟨_, _, rfl, Or.inr rfl⟩

/-- the next block in sequence, whatever the state of the window (`add` fails on a full one, which the invariant excludes) … -/
theorem rStep_inseq_eq (c : RCfg) {s : RState} (hrun : s.status = .running) (n : Nat) (p : Bytes) (hseq : n = (s.bn + 1) % 65536) :
    rStep c s (.data n p) =
      if s.win.len = s.win.size then ({ s with status := .failed }, [])
      else if p.length < c.b then markOk (flushAck c (s.accept n p))
      else if (s.accept n p).win.isFull = true then flushAck c (s.accept n p) else (s.accept n p, []) := by
  simp only [rStep_eq, rDecide, hrun, hseq, ↓reduceIte, apply_ite (RAct.run c)]
  rfl

/-- … so either the transfer fails, or the block is accepted and besides that only the window changes - and the transfer ends
if the block is short -/
theorem rStep_inseq_frame (c : RCfg) {s : RState} (hrun : s.status = .running) (n : Nat) (p : Bytes)
    (hseq : n = (s.bn + 1) % 65536) :
    (rStep c s (.data n p)).1.status = .failed ∨
    ∃ w, (rStep c s (.data n p)).1 = { s.accept n p with win := w, status := if p.length < c.b then .ok else .running } := by
  obtain ⟨w, st, he, hst⟩ := flushAck_frame c (s.accept n p)
  have hst : st = .running ∨ st = .failed := hst.imp_left (·.trans hrun)
  rw [rStep_inseq_eq c hrun n p hseq]
  split
  · exact .inl rfl
  · split
    · rw [markOk, he]
      rcases hst with rfl | rfl
      · exact .inr ⟨w, rfl⟩
      · exact .inl rfl
    · split
      · rw [he]
        rcases hst with rfl | rfl
        · exact .inr ⟨w, rfl⟩
        · exact .inl rfl
      · exact .inr ⟨_, congrArg (fun st => { s.accept n p with status := st }) hrun⟩

theorem rStep_inseq {c : RCfg} (hw : c.w < 65536) {s : RState} (hp : RPending c s) (hrun : s.status = .running) (n : Nat)
    (p : Bytes) (hseq : n = (s.bn + 1) % 65536) :
    rStep c s (.data n p) =
      if p.length < c.b then
        ({ (s.accept n p).flushed with status := .ok }, ackOut c.rep n (s.accept n p).flushed.win.file)
      else if s.win.elems.length + 1 = c.w then
        ((s.accept n p).flushed, ackOut c.rep n (s.accept n p).flushed.win.file)
      else (s.accept n p, []) := by
  obtain ⟨hlt, hsz, hcw⟩ := hp
  have hroom : s.win.len ≠ s.win.size := by rw [Window.len_eq (by omega), hsz]; omega
  have hfull : ((s.accept n p).win.isFull = true) = (s.win.elems.length + 1 = c.w) := by
    simp [Window.isFull, RState.accept, hsz, Nat.mod_eq_of_lt (show s.win.elems.length + 1 < 65536 by omega)]
  rw [rStep_inseq_eq c hrun n p hseq, if_neg hroom, flushAck_eq c (s := s.accept n p) hcw]
  simp only [hfull, markOk, show (s.accept n p).flushed.status = .running from hrun, ↓reduceIte]
  rfl

theorem rStep_dup (c : RCfg) {s : RState} (hrun : s.status = .running) (p : Bytes) (hpend : s.win.elems ≠ []) :
    rStep c s (.data s.bn p) = (s, []) := by
  have hne : s.bn ≠ (s.bn + 1) % 65536 := by omega
  have : s.win.isEmpty = false := by simpa [Window.isEmpty] using hpend
  simp only [rStep, hrun, hne, ↓reduceIte, this, Bool.not_false, Bool.and_true, decide_true]

theorem rStep_reack (c : RCfg) {s : RState} (hrun : s.status = .running) (hcw : s.win.file.canWrite = true) (n : Nat) (p : Bytes)
    (hne : n ≠ (s.bn + 1) % 65536) (hnot : ¬ (n = s.bn ∧ s.win.elems ≠ [])) :
    rStep c s (.data n p) = (s.flushed, ackOut c.rep s.bn s.flushed.win.file) := by
  have : (decide (n = s.bn) && !s.win.isEmpty) = false := by
    rw [Bool.and_eq_false_iff]
    by_cases hn : n = s.bn
    · exact Or.inr (by simpa [Window.isEmpty] using fun h => hnot ⟨hn, h⟩)
    · exact Or.inl (by simpa using hn)
  simp only [rStep, hrun, hne, ↓reduceIte, this, Bool.false_eq_true]
  exact flushAck_eq c hcw

/-! ### what every case has in common -/

/-- the decision leaves the state alone up to the retry counter and a failure (`stay`), or it flushes what is buffered, or -
on the next block in sequence with room in the window - it buffers that block first -/
theorem rDecide_cases (b : Nat) (s : RState) (ev : REv) :
    (∃ t, rDecide b s ev = .stay t ∧ t.bn = s.bn ∧ t.win = s.win ∧ t.accepted = s.accepted ∧
      (t.status = s.status ∨ t.status = .failed)) ∨
    s.status = .running ∧ (rDecide b s ev = .flush s ∨
      ∃ n p, ev = .data n p ∧ n = (s.bn + 1) % 65536 ∧ (rDecide b s ev).state = s.accept n p) := by
  obtain ⟨bn, win, retry, status, accepted⟩ := s
  cases status with
  | running =>
    cases ev with
    | error => exact .inl ⟨_, rfl, rfl, rfl, rfl, .inr rfl⟩
    | fail =>
      by_cases h : retry + 1 = Gen.maxRetries
      · exact .inl ⟨_, if_pos h, rfl, rfl, rfl, .inr rfl⟩
      · exact .inl ⟨_, if_neg h, rfl, rfl, rfl, .inl rfl⟩
    | data n p =>
      by_cases hseq : n = (bn + 1) % 65536
      · by_cases hfull : win.len = win.size
        · exact .inl ⟨_, (if_pos hseq).trans (if_pos hfull), rfl, rfl, rfl, .inr rfl⟩
        · refine .inr ⟨rfl, .inr ⟨n, p, rfl, hseq, (congrArg RAct.state ((if_pos hseq).trans (if_neg hfull))).trans ?_⟩⟩
          split
          · rfl
          · split <;> rfl
      · by_cases hdup : (decide (n = bn) && !win.isEmpty) = true
        · exact .inl ⟨_, (if_neg hseq).trans (if_pos hdup), rfl, rfl, rfl, .inl rfl⟩
        · exact .inr ⟨rfl, .inl ((if_neg hseq).trans (if_neg hdup))⟩
  | ok | failed => exact .inl ⟨_, rfl, rfl, rfl, rfl, .inl rfl⟩

/-! ### the transitions keep the invariant -/

theorem rInit_inv (c : RCfg) (hw1 : 1 ≤ c.w) : RInv c (rInit c) :=
  ⟨rfl, rfl, hw1, rfl, rfl, fun _ _ h => (nomatch h), fun h => (nomatch h)⟩

/-- the invariant does not read the retry counter, and it survives a failure -/
theorem RInv.congr {c : RCfg} {s t : RState} (h : RInv c s) (hbn : t.bn = s.bn) (hwin : t.win = s.win)
    (hst : t.status = s.status ∨ t.status = .failed) (hacc : t.accepted = s.accepted) : RInv c t := by
  obtain ⟨_, _, _, _, _⟩ := s
  obtain ⟨_, _, _, _, _⟩ := t
  simp only at hbn hwin hst hacc
  subst hbn hwin hacc
  rcases hst with rfl | rfl
  · exact { h with }
  · exact { h with full_before := fun hk => (nomatch hk), ok_final := fun hk => (nomatch hk) }

theorem RInv.flushed {c : RCfg} {s : RState} (h : RInv c s) : RInv c s.flushed ∧ s.flushed.win.file.content = s.received.flatten := by
  have hst : s.flushed.win.file.content = s.received.flatten := (foldl_write_content _ _).trans h.stored
  exact ⟨{ h with stored := by simpa [RState.flushed, RState.received] using hst
                  pend_lt := h.w_pos
                  can_write := (foldl_write_canWrite _ _).trans h.can_write
                  ok_final := fun hk => ⟨rfl, (h.ok_final hk).2⟩ }, hst⟩

theorem RInv.accept_bn {c : RCfg} {s : RState} (h : RInv c s) {n : Nat} (p : Bytes) (hseq : n = (s.bn + 1) % 65536) :
    n = (s.accept n p).accepted.length % 65536 := by
  rw [hseq, h.bn_eq]; simp [RState.accept]

theorem RInv.accept_stored {c : RCfg} {s : RState} (h : RInv c s) (n : Nat) (p : Bytes) :
    (s.accept n p).win.file.content ++ (s.accept n p).win.elems.flatten = (s.accept n p).received.flatten := by
  rw [RState.received_accept, List.flatten_append, ← h.stored]
  simp [RState.accept]

theorem RInv.accept {c : RCfg} {s : RState} (h : RInv c s) (hrun : s.status = .running) {n : Nat} {p : Bytes}
    (hseq : n = (s.bn + 1) % 65536) (hfull : c.b ≤ p.length) (hroom : s.win.elems.length + 1 < c.w) : RInv c (s.accept n p) :=
  { h with bn_eq := h.accept_bn p hseq
           stored := h.accept_stored n p
           pend_lt := by simpa [RState.accept] using hroom
           full_before := fun _ q hq => (List.mem_cons.mp hq).elim (· ▸ hfull) (h.full_before hrun q)
           ok_final := fun hk => nomatch hrun.symm.trans hk }

theorem RInv.accept_flushed_content {c : RCfg} {s : RState} (h : RInv c s) (n : Nat) (p : Bytes) :
    (s.accept n p).flushed.win.file.content = (s.accept n p).received.flatten :=
  (foldl_write_content _ _).trans (h.accept_stored n p)

/-- a full block is accepted and everything buffered flushed (as happens when it fills the window) -/
theorem RInv.accept_flushed {c : RCfg} {s : RState} (h : RInv c s) (hrun : s.status = .running) {n : Nat} {p : Bytes}
    (hseq : n = (s.bn + 1) % 65536) (hfull : c.b ≤ p.length) : RInv c (s.accept n p).flushed :=
  { h with bn_eq := h.accept_bn p hseq
           stored := by simpa [RState.flushed, RState.received] using h.accept_flushed_content n p
           pend_lt := h.w_pos
           can_write := (foldl_write_canWrite _ _).trans h.can_write
           full_before := fun _ q hq => (List.mem_cons.mp hq).elim (· ▸ hfull) (h.full_before hrun q)
           ok_final := fun hk => nomatch hrun.symm.trans hk }

/-- the final (short) block is accepted, everything buffered flushed, and the transfer ends -/
theorem RInv.accept_finished {c : RCfg} {s : RState} (h : RInv c s) (hrun : s.status = .running) {n : Nat} {p : Bytes}
    (hseq : n = (s.bn + 1) % 65536) (hshort : p.length < c.b) : RInv c { (s.accept n p).flushed with status := .ok } :=
  { h with bn_eq := h.accept_bn p hseq
           stored := by simpa [RState.flushed, RState.received] using h.accept_flushed_content n p
           pend_lt := h.w_pos
           can_write := (foldl_write_canWrite _ _).trans h.can_write
           full_before := fun hk => nomatch hk
           ok_final := fun _ => ⟨rfl, p, s.accepted, rfl, hshort, h.full_before hrun⟩ }

theorem RInv.ok_content {c : RCfg} {s : RState} (h : RInv c s) (hok : s.status = .ok) :
    s.win.file.content = s.received.flatten := by
  have := h.stored
  rwa [(h.ok_final hok).1, List.flatten_nil, List.append_nil] at this

theorem rStep_good (c : RCfg) (hw : c.w < 65536) (s : RState) (h : RInv c s) (ev : REv) :
    RInv c (rStep c s ev).1 ∧
    (∀ a ∈ (rStep c s ev).2, a.n = (rStep c s ev).1.received.length % 65536 ∧
        a.file.content = (rStep c s ev).1.received.flatten ∧ (rStep c s ev).1.win.elems = []) ∧
    ((rStep c s ev).1.received = s.received ∨
      ∃ n p, s.status = .running ∧ ev = .data n p ∧ n = (s.received.length + 1) % 65536 ∧
        (rStep c s ev).1.received = s.received ++ [p]) := by
  have hbn : s.bn = s.received.length % 65536 := s.received_length ▸ h.bn_eq
  obtain ⟨t, ht, htbn, hwin, hacc, hst⟩ | ⟨hrun, ht | ⟨n, p, rfl, hseq, -⟩⟩ := rDecide_cases c.b s ev
  · rw [rStep_eq, ht, RAct.run]
    exact ⟨h.congr htbn hwin hst hacc, fun _ ha => (nomatch ha), Or.inl (congrArg List.reverse hacc)⟩
  · rw [rStep_eq, ht, RAct.run, flushAck_eq c h.can_write]
    exact ⟨h.flushed.1, fun a ha => List.eq_of_mem_replicate ha ▸ ⟨hbn, h.flushed.2, rfl⟩, Or.inl rfl⟩
  · have hn : n = (s.received.length + 1) % 65536 := by rw [hseq, hbn]; omega
    have hgrow : ∀ r : RState, r.accepted = p :: s.accepted → r.received = s.received ∨
        ∃ n' p', s.status = .running ∧ REv.data n p = .data n' p' ∧ n' = (s.received.length + 1) % 65536 ∧
          r.received = s.received ++ [p'] :=
      fun r hr => Or.inr ⟨n, p, hrun, rfl, hn, (congrArg List.reverse hr).trans List.reverse_cons⟩
    have hacc : ∀ a ∈ ackOut c.rep n (s.accept n p).flushed.win.file,
        a.n = (s.accept n p).received.length % 65536 ∧ a.file.content = (s.accept n p).received.flatten ∧
          (s.accept n p).flushed.win.elems = [] := fun a ha =>
      List.eq_of_mem_replicate ha ▸
        ⟨(s.accept n p).received_length ▸ h.accept_bn p hseq, h.accept_flushed_content n p, rfl⟩
    rw [rStep_inseq hw h.pending hrun n p hseq]
    split
    · next hshort => exact ⟨h.accept_finished hrun hseq hshort, hacc, hgrow _ rfl⟩
    · next hlong =>
      split
      · exact ⟨h.accept_flushed hrun hseq (Nat.le_of_not_lt hlong), hacc, hgrow _ rfl⟩
      · exact ⟨h.accept hrun hseq (Nat.le_of_not_lt hlong) (by have := h.pend_lt; omega), fun _ ha => (nomatch ha), hgrow _ rfl⟩

/-- the invariant along a run; `hstep` may use that the event is one of the run's -/
theorem rRunFrom_inv {c : RCfg} {P : RState → Prop} (evs : List REv)
    (hstep : ∀ s, ∀ ev ∈ evs, P s → P (rStep c s ev).1) {s : RState} (h : P s) : P (rRunFrom c s evs).2 := by
  induction evs generalizing s with
  | nil => exact h
  | cons e es ih =>
    exact ih (fun s ev hev => hstep s ev (List.mem_cons_of_mem _ hev)) (hstep s e List.mem_cons_self h)

theorem rRunFrom_ended (c : RCfg) {s : RState} (h : s.status = .ok ∨ s.status = .failed) (evs : List REv) :
    (rRunFrom c s evs).2 = s := by
  induction evs with
  | nil => rfl
  | cons e es ih => rw [rRunFrom, rStep_ended c s e h]; exact ih

/-! ### every arrival history -/

/-- what has been accepted is blocks `1..j` of the file -/
def AcceptedPrefix (b : Nat) (f : Bytes) (r : RState) : Prop :=
  r.received = blocksUpTo b f r.received.length

theorem AcceptedPrefix.of_recv {b : Nat} {f : Bytes} {r : RState} {R : Nat} (h : r.received = blocksUpTo b f R) :
    AcceptedPrefix b f r := by
  rw [AcceptedPrefix, h, blocksUpTo_length]

inductive RReach (c : RCfg) : RState → Prop where
  | init : RReach c (rInit c)
  | step (s : RState) (ev : REv) : RReach c s → RReach c (rStep c s ev).1

theorem rreach_inv (c : RCfg) (hw1 : 1 ≤ c.w) (hw : c.w < 65536) (s : RState) (h : RReach c s) : RInv c s := by
  induction h with
  | init => exact rInit_inv c hw1
  | step s ev _ ih => exact (rStep_good c hw s ih ev).1

/-- reachable when every arriving DATA datagram is a block of the file `f` (any order, loss, duplication) -/
inductive RReachFrom (c : RCfg) (f : Bytes) : RState → Prop where
  | init : RReachFrom c f (rInit c)
  | step (s : RState) (ev : REv) : RReachFrom c f s →
      (∀ n p, ev = .data n p → ∃ k, 1 ≤ k ∧ k ≤ nblocks c.b f ∧ n = k % 65536 ∧ p = blk c.b f k) →
      RReachFrom c f (rStep c s ev).1

theorem RReachFrom.reach {c : RCfg} {f : Bytes} {s : RState} (h : RReachFrom c f s) : RReach c s := by
  induction h with
  | init => exact .init
  | step s ev _ _ ih => exact .step s ev ih

theorem RReachFrom.prefix {c : RCfg} {f : Bytes} {s : RState} (h : RReachFrom c f s) (hb : 0 < c.b) (hw1 : 1 ≤ c.w)
    (hw : c.w < 65536) (hN : nblocks c.b f ≤ 65535) :
    AcceptedPrefix c.b f s ∧ s.received.length ≤ nblocks c.b f ∧ (s.status = .ok → s.win.file.content = f) := by
  have key : s.received = blocksUpTo c.b f s.received.length ∧ s.received.length ≤ nblocks c.b f := by
    induction h with
    | init => simp [rInit, RState.received, blocksUpTo]
    | step s ev hr hconf ih =>
      obtain ⟨ih1, ih2⟩ := ih
      have hinv := rreach_inv c hw1 hw s hr.reach
      rcases (rStep_good c hw s hinv ev).2.2 with h1 | ⟨n, p, hrun, rfl, hn, h3⟩
      · rw [h1]; exact ⟨ih1, ih2⟩
      · obtain ⟨k, hk1, hkN, hnk, rfl⟩ := hconf n p rfl
        -- fewer than `N` blocks have been accepted, since all of them are full blocks
        have hlt : s.received.length ≠ nblocks c.b f := by
          intro he
          obtain ⟨m, hm⟩ : ∃ m, s.received.length = m + 1 := ⟨_, (Nat.succ_pred_eq_of_pos (he ▸ nblocks_pos _ _)).symm⟩
          have hmem : blk c.b f (nblocks c.b f) ∈ s.accepted := by
            rw [← List.mem_reverse, ← RState.received, ih1, hm, blocksUpTo_succ, ← hm, he]; simp
          have := hinv.full_before hrun _ hmem
          have := (blk_length_lt_iff c.b hb f _ (nblocks_pos _ _) (Nat.le_refl _)).mpr rfl
          omega
        have hk : k = s.received.length + 1 := by omega
        rw [h3, List.length_append, List.length_singleton, blocksUpTo_succ, ← ih1, hk]
        exact ⟨rfl, by omega⟩
  refine ⟨key.1, key.2, fun hok => ?_⟩
  have hinv := rreach_inv c hw1 hw s h.reach
  obtain ⟨-, p, rest, hacc, hshort, -⟩ := hinv.ok_final hok
  -- the last accepted block is short, so it is block `N`
  have hlen : s.received.length = rest.length + 1 := by simp [RState.received, hacc]
  have hp : p = blk c.b f (rest.length + 1) := by
    have := key.1
    rw [hlen, blocksUpTo_succ, RState.received, hacc, List.reverse_cons] at this
    exact List.singleton_inj.mp (List.append_inj' this rfl).2
  have hfin : rest.length + 1 = nblocks c.b f :=
    (blk_length_lt_iff c.b hb f _ (by omega) (hlen ▸ key.2)).mp (hp ▸ hshort)
  rw [hinv.ok_content hok, key.1, hlen, hfin, blocks_flatten_all c.b hb f]

/-! ### the receiver fed with blocks of one file, in block counts -/

/-- a running receiver that has accepted exactly blocks `1..R` of the file `f`, the last `p` of them still buffered -/
structure RWait (c : RCfg) (f : Bytes) (r : RState) (R p : Nat) : Prop where
  inv : RInv c r
  running : r.status = .running
  retry_lt : r.retry < Gen.maxRetries
  recv : r.received = blocksUpTo c.b f R
  pend : r.win.elems.length = p

theorem RWait.pend_lt {c : RCfg} {f : Bytes} {r : RState} {R p : Nat} (h : RWait c f r R p) : p < c.w :=
  h.pend ▸ h.inv.pend_lt

theorem RWait.init (c : RCfg) (f : Bytes) (hw1 : 1 ≤ c.w) : RWait c f (rInit c) 0 0 :=
  ⟨rInit_inv c hw1, rfl, maxRetries_pos, rfl, rfl⟩

theorem RWait.accepted_length {c : RCfg} {f : Bytes} {r : RState} {R p : Nat} (h : RWait c f r R p) : r.accepted.length = R := by
  have := congrArg List.length h.recv
  rwa [blocksUpTo_length, RState.received, List.length_reverse] at this

theorem RWait.acceptedPrefix {c : RCfg} {f : Bytes} {r : RState} {R p : Nat} (h : RWait c f r R p) : AcceptedPrefix c.b f r :=
  .of_recv h.recv

theorem RWait.bn {c : RCfg} {f : Bytes} {r : RState} {R p : Nat} (h : RWait c f r R p) : r.bn = R % 65536 := by
  rw [h.inv.bn_eq, h.accepted_length]

/-- what block `R + 1` of the file leads to: the state `r'` and the acknowledgements `out` -/
inductive RWait.Next (c : RCfg) (f : Bytes) (R p : Nat) (r' : RState) (out : List AckObs) : Prop where
  /-- the final block: the upload ends with the complete file -/
  | final (hN : R + 1 = nblocks c.b f) (hok : r'.status = .ok) (hfile : r'.win.file.content = f)
      (hout : out = ackOut c.rep ((R + 1) % 65536) r'.win.file)
  /-- the block fills the window: everything buffered is flushed and acknowledged -/
  | full (hN : R + 1 ≠ nblocks c.b f) (hp : p + 1 = c.w) (h : RWait c f r' (R + 1) 0) (hretry : r'.retry = 0)
      (hout : out = ackOut c.rep ((R + 1) % 65536) r'.win.file)
  /-- the block is buffered -/
  | buffered (hN : R + 1 ≠ nblocks c.b f) (hp : p + 1 ≠ c.w) (h : RWait c f r' (R + 1) (p + 1)) (hretry : r'.retry = 0)
      (hout : out = [])

theorem RWait.inseq {c : RCfg} {f : Bytes} {r : RState} {R p : Nat} (h : RWait c f r R p) (hb : 0 < c.b) (hw : c.w < 65536)
    (hRN : R < nblocks c.b f) :
    ∃ r' out, rStep c r (.data ((R + 1) % 65536) (blk c.b f (R + 1))) = (r', out) ∧ r'.received = blocksUpTo c.b f (R + 1) ∧
      RWait.Next c f R p r' out := by
  have hseq : (R + 1) % 65536 = (r.bn + 1) % 65536 := by rw [h.bn]; omega
  have hshort := blk_length_lt_iff c.b hb f (R + 1) (Nat.succ_pos _) hRN
  have hrecv : (r.accept ((R + 1) % 65536) (blk c.b f (R + 1))).received = blocksUpTo c.b f (R + 1) := by
    rw [blocksUpTo_succ, ← h.recv, RState.received_accept]
  have hpw := h.pend_lt
  rw [rStep_inseq hw h.inv.pending h.running _ _ hseq, h.pend]
  by_cases hN : R + 1 = nblocks c.b f
  · refine ⟨_, _, if_pos (hshort.mpr hN), hrecv, .final hN rfl ?_ rfl⟩
    rw [show _ = _ from h.inv.accept_flushed_content _ _, hrecv, hN, blocks_flatten_all c.b hb f]
  · have hfull : c.b ≤ (blk c.b f (R + 1)).length := Nat.le_of_not_lt (mt hshort.mp hN)
    rw [if_neg (mt hshort.mp hN)]
    by_cases hp : p + 1 = c.w
    · exact ⟨_, _, if_pos hp, hrecv,
        .full hN hp ⟨h.inv.accept_flushed h.running hseq hfull, h.running, maxRetries_pos, hrecv, rfl⟩ rfl rfl⟩
    · exact ⟨_, _, if_neg hp, hrecv, .buffered hN hp
        ⟨h.inv.accept h.running hseq hfull (by rw [h.pend]; omega), h.running, maxRetries_pos, hrecv,
          by simp [RState.accept, h.pend]⟩ rfl rfl⟩

theorem RWait.dup {c : RCfg} {f : Bytes} {r : RState} {R p : Nat} (h : RWait c f r R p) (hp : 0 < p) (d : Bytes) :
    rStep c r (.data (R % 65536) d) = (r, []) := by
  rw [← h.bn]
  exact rStep_dup c h.running d (List.ne_nil_of_length_pos (h.pend ▸ hp))

/-- any other block `k` (in block counts, not further than 65535 from `R`): everything buffered is flushed and block `R`
acknowledged again -/
theorem RWait.reack {c : RCfg} {f : Bytes} {r : RState} {R p k : Nat} (h : RWait c f r R p) (d : Bytes) (hk : k ≠ R + 1)
    (hnot : ¬ (k = R ∧ 0 < p)) (hlo : R < k + 65535) (hhi : k < R + 65536) :
    rStep c r (.data (k % 65536) d) = (r.flushed, ackOut c.rep (R % 65536) r.flushed.win.file) ∧ RWait c f r.flushed R 0 := by
  have hn : k % 65536 ≠ (R % 65536 + 1) % 65536 := by omega
  have hkR : k % 65536 = R % 65536 → k = R := by omega
  rw [← h.bn] at hn hkR ⊢
  refine ⟨rStep_reack c h.running h.inv.can_write _ d hn fun hc => hnot ⟨hkR hc.1, ?_⟩,
    h.inv.flushed.1, h.running, h.retry_lt, h.recv, rfl⟩
  exact h.pend ▸ List.length_pos_iff.mpr hc.2

theorem RWait.timeout {c : RCfg} {f : Bytes} {r : RState} {R p : Nat} (h : RWait c f r R p) (hr : r.retry + 1 ≠ Gen.maxRetries) :
    rStep c r .fail = ({ r with retry := r.retry + 1 }, []) ∧ RWait c f { r with retry := r.retry + 1 } R p := by
  have := h.retry_lt
  rw [rStep_fail c h.running, if_neg hr]
  exact ⟨rfl, h.inv.congr rfl rfl (Or.inl rfl) rfl, h.running, by show r.retry + 1 < _; omega, h.recv, h.pend⟩

end Tftp
