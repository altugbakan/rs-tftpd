import Tftp.Model.Basic
/-! How a file is cut into blocks. -/
namespace Tftp

/-- `k`-th (0-based) block of the file -/
def slice (b : Nat) (f : Bytes) (k : Nat) : Bytes := (f.drop (k * b)).take b

/-- number of blocks of a transfer: `N = |f| / b + 1` (the last one is short, possibly empty) -/
def nblocks (b : Nat) (f : Bytes) : Nat := f.length / b + 1

/-- block `k` (1-based) as the RFC numbers them -/
def blk (b : Nat) (f : Bytes) (k : Nat) : Bytes := slice b f (k - 1)

/-- blocks `1..R` of the file -/
def blocksUpTo (b : Nat) (f : Bytes) (R : Nat) : List Bytes := (List.range R).map (fun i => blk b f (i + 1))

theorem drop_drop_mul (b : Nat) (f : Bytes) (k : Nat) :
    (f.drop (k * b)).drop b = f.drop ((k + 1) * b) := by
  rw [List.drop_drop, Nat.add_mul, Nat.one_mul]

theorem slice_length (b : Nat) (f : Bytes) (k : Nat) :
    (slice b f k).length = min b (f.length - k * b) := by
  simp [slice]

theorem nblocks_pos (b : Nat) (f : Bytes) : 0 < nblocks b f := Nat.succ_pos _

theorem mul_le_length_iff {b : Nat} (hb : 0 < b) (f : Bytes) (k : Nat) : k * b ≤ f.length ↔ k < nblocks b f := by
  rw [nblocks, Nat.lt_succ_iff, Nat.le_div_iff_mul_le hb]

theorem blk_length_lt_iff (b : Nat) (hb : 0 < b) (f : Bytes) (k : Nat) (hk1 : 1 ≤ k) (hk : k ≤ nblocks b f) :
    (blk b f k).length < b ↔ k = nblocks b f := by
  have h1 := mul_le_length_iff hb f k
  have h2 := mul_le_length_iff hb f (k - 1)
  rw [show k = k - 1 + 1 by omega, Nat.add_mul, Nat.one_mul] at h1
  rw [blk, slice_length]
  omega

theorem take_succ_block (b : Nat) (f : Bytes) (j : Nat) :
    f.take (j * b) ++ slice b f j = f.take ((j + 1) * b) := by
  rw [slice, Nat.add_mul, Nat.one_mul, List.take_add]

theorem blocksUpTo_succ (b : Nat) (f : Bytes) (R : Nat) :
    blocksUpTo b f (R + 1) = blocksUpTo b f R ++ [blk b f (R + 1)] := by
  simp [blocksUpTo, List.range_succ]

theorem blocksUpTo_length (b : Nat) (f : Bytes) (R : Nat) : (blocksUpTo b f R).length = R := by
  simp [blocksUpTo]

theorem blocks_flatten (b : Nat) (f : Bytes) (j : Nat) : (blocksUpTo b f j).flatten = f.take (j * b) := by
  induction j with
  | zero => simp [blocksUpTo]
  | succ j ih => rw [blocksUpTo_succ, List.flatten_append, ih, blk, Nat.add_sub_cancel]; simpa using take_succ_block b f j

theorem take_all_blocks (b : Nat) (hb : 0 < b) (f : Bytes) : f.take (nblocks b f * b) = f := by
  have := mt (mul_le_length_iff hb f (nblocks b f)).mp (Nat.lt_irrefl _)
  exact List.take_of_length_le (by omega)

theorem blocks_flatten_all (b : Nat) (hb : 0 < b) (f : Bytes) : (blocksUpTo b f (nblocks b f)).flatten = f := by
  rw [blocks_flatten, take_all_blocks b hb f]

theorem eq_map_range'_iff {α : Type} (g : Nat → α) (r : Nat) (l : List α) :
    (∀ i, i < l.length → l[i]? = some (g (r + i))) ↔ l = (List.range' r l.length).map g := by
  constructor
  · intro h
    apply List.ext_getElem?
    intro i
    by_cases hi : i < l.length
    · rw [h i hi]; simp [hi]
    · simp [hi]
  · intro h i hi
    rw [h]
    simp [hi]

end Tftp
