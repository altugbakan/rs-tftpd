import Tftp.Model.Codec
/-! What each function of the codec model does on the inputs the codec theorems meet: the number
tables, strings read at a position, big-endian and decimal numbers, `decode` behind its
header test; and what a well-formed packet is (`WF`). -/
namespace Tftp

/-- One link of a lookup written as a chain of `if`s. -/
theorem ite_some_eq_some {α : Type} {c : Prop} [Decidable c] {a b : α} {e : Option α}
    (h : (if c then some a else e) = some b) : c ∧ a = b ∨ e = some b := by
  by_cases hc : c
  · rw [if_pos hc] at h; exact .inl ⟨hc, Option.some.inj h⟩
  · rw [if_neg hc] at h; exact .inr h

theorem Opcode.ofU16_toU16 (o : Opcode) : Opcode.ofU16 o.toU16 = some o := by
  cases o <;> rfl

theorem Opcode.toU16_of_ofU16 {n : Nat} {o : Opcode} (h : Opcode.ofU16 n = some o) :
    o.toU16 = n := by
  unfold Opcode.ofU16 at h
  -- link by link: `n` is the number tested and `o` the answer (`rfl`: the two tables agree on it),
  -- or the lookup goes on
  repeat
    obtain ⟨rfl, rfl⟩ | h := ite_some_eq_some h
    · rfl
  cases h

theorem Opcode.toU16_range (o : Opcode) : 1 ≤ o.toU16 ∧ o.toU16 ≤ 6 := by
  cases o <;> decide

theorem ErrorCode.ofU16_toU16 (c : ErrorCode) : ErrorCode.ofU16 c.toU16 = some c := by
  cases c <;> rfl

theorem ErrorCode.toU16_of_ofU16 {n : Nat} {c : ErrorCode} (h : ErrorCode.ofU16 n = some c) :
    c.toU16 = n := by
  unfold ErrorCode.ofU16 at h
  repeat
    obtain ⟨rfl, rfl⟩ | h := ite_some_eq_some h
    · rfl
  cases h

theorem ErrorCode.toU16_le (c : ErrorCode) : c.toU16 ≤ 7 := by
  cases c <;> decide

theorem splitZero_append {s : Bytes} (rest : Bytes) (h0 : (0 : UInt8) ∉ s) :
    splitZero (s ++ 0 :: rest) = some (s, rest) := by
  induction s with
  | nil => rfl
  | cons b s ih =>
    rw [List.mem_cons, not_or] at h0
    rw [List.cons_append, splitZero, if_neg (Ne.symm h0.1), ih h0.2]

theorem splitZero_some {b s r : Bytes} (h : splitZero b = some (s, r)) :
    b = s ++ 0 :: r ∧ (0 : UInt8) ∉ s := by
  induction b generalizing s with
  | nil => cases h
  | cons x xs ih =>
    rw [splitZero] at h
    split at h
    · next hx => cases h; exact ⟨by rw [hx]; rfl, List.not_mem_nil⟩
    · next hx =>
      split at h
      · next heq =>
        cases h
        obtain ⟨rfl, h0⟩ := ih heq
        exact ⟨rfl, by simp [Ne.symm hx, h0]⟩
      · cases h

theorem splitZero_none {s : Bytes} (h0 : (0 : UInt8) ∉ s) : splitZero s = none := by
  cases h : splitZero s with
  | none => rfl
  | some sr => exact absurd (by rw [(splitZero_some h).1]; simp) h0

theorem validUtf8_of_ascii (s : Bytes) (h : ∀ b ∈ s, b < 0x80) : validUtf8 s = true := by
  induction s with
  | nil => rfl
  | cons b s ih =>
    unfold validUtf8
    rw [if_pos (h b List.mem_cons_self)]
    exact ih fun x hx => h x (List.mem_cons_of_mem _ hx)

/-! The parsers read one NUL-terminated string after the other, each at the index behind the
terminator of the last. What they do at index `i` is a matter of `buf.drop i` alone, so that is
what the lemmas take; `drop_after` carries it from one string to the next. -/

theorem drop_after {buf : Bytes} {i : Nat} {s r : Bytes} (hd : buf.drop i = s ++ 0 :: r) :
    buf.drop (i + s.length + 1) = r := by
  rw [Nat.add_assoc, ← List.drop_drop, hd, ← List.drop_drop, List.drop_left]; rfl

theorem lt_of_drop {buf : Bytes} {i : Nat} {s r : Bytes} (hd : buf.drop i = s ++ 0 :: r) :
    i + s.length < buf.length := by
  have hl := congrArg List.length hd
  rw [List.length_drop, List.length_append, List.length_cons] at hl
  omega

theorem toStr_of_drop {buf : Bytes} {i : Nat} {s r : Bytes} (hd : buf.drop i = s ++ 0 :: r)
    (h0 : (0 : UInt8) ∉ s) :
    toStr buf i = if validUtf8 s then .ok (s, i + s.length) else .err := by
  have := lt_of_drop hd
  rw [toStr, if_neg (by omega), hd, splitZero_append r h0]

theorem toStr_no_nul {buf : Bytes} {i : Nat} (hi : i ≤ buf.length) (h0 : (0 : UInt8) ∉ buf.drop i) :
    toStr buf i = .err := by
  rw [toStr, if_neg (Nat.not_lt.mpr hi), splitZero_none h0]

theorem u16be_length (n : Nat) : (u16be n).length = 2 := rfl

theorem u16be_append (n : Nat) (rest : Bytes) :
    u16be n ++ rest = UInt8.ofNat (n / 256) :: UInt8.ofNat (n % 256) :: rest := rfl

theorem u16be_value {n : Nat} (h : n < 65536) :
    (UInt8.ofNat (n / 256)).toNat * 256 + (UInt8.ofNat (n % 256)).toNat = n := by
  rw [UInt8.toNat_ofNat', UInt8.toNat_ofNat', Nat.mod_mod,
    Nat.mod_eq_of_lt (Nat.div_lt_of_lt_mul h), Nat.div_add_mod']

theorem toU16_u16be (n : Nat) (h : n < 65536) (rest : Bytes) : toU16 (u16be n ++ rest) = some n :=
  congrArg some (u16be_value h)

theorem toU16_lt {s : Bytes} {n : Nat} (h : toU16 s = some n) : n < 65536 ∧ 2 ≤ s.length := by
  match s, h with
  | b0 :: b1 :: _, h =>
    cases h
    have := b0.toNat_lt
    have := b1.toNat_lt
    exact ⟨by omega, Nat.le_add_left 2 _⟩

theorem u16be_of_lt {n : Nat} (h : n < 256) : u16be n = [0, UInt8.ofNat n] := by
  rw [u16be, Nat.div_eq_of_lt h, Nat.mod_eq_of_lt h]; rfl

def isDigit (b : UInt8) : Prop := 48 ≤ b.toNat ∧ b.toNat ≤ 57

theorem parseDigits_cons {d : UInt8} (hd : isDigit d) (rest : Bytes) (a : Nat) :
    parseDigits (d :: rest) a = parseDigits rest (a * 10 + (d.toNat - 48)) :=
  if_pos hd

theorem parseDigits_snoc (ds : Bytes) {d : UInt8} (hd : isDigit d) (a : Nat) :
    parseDigits (ds ++ [d]) a = (parseDigits ds a).map (· * 10 + (d.toNat - 48)) := by
  induction ds generalizing a with
  | nil => exact parseDigits_cons hd [] a
  | cons x xs ih =>
    rw [List.cons_append, parseDigits, parseDigits]
    split
    · exact ih _
    · rfl

theorem digitsAux_acc (fuel n : Nat) (acc : Bytes) :
    digitsAux fuel n acc = digitsAux fuel n [] ++ acc := by
  induction fuel generalizing n acc with
  | zero => rfl
  | succ f ih =>
    rw [digitsAux, digitsAux]
    split
    · rfl
    · rw [ih (n / 10) (_ :: acc), ih (n / 10) [_], List.append_assoc]; rfl

/-- the digit `digitsAux` emits for `n`, and its value -/
theorem digit_spec (n : Nat) :
    isDigit (UInt8.ofNat (48 + n % 10)) ∧ (UInt8.ofNat (48 + n % 10)).toNat - 48 = n % 10 := by
  rw [isDigit, UInt8.toNat_ofNat', Nat.mod_eq_of_lt (by omega)]
  omega

theorem digitsAux_spec (fuel n : Nat) (h : n < fuel) :
    (∀ d ∈ digitsAux fuel n [], isDigit d) ∧ parseDigits (digitsAux fuel n []) 0 = some n ∧
      digitsAux fuel n [] ≠ [] := by
  induction fuel generalizing n with
  | zero => omega
  | succ f ih =>
    obtain ⟨hd, hv⟩ := digit_spec n
    rw [digitsAux]
    split
    · next hlt =>
      refine ⟨fun d hm => ?_, ?_, List.cons_ne_nil _ _⟩
      · rw [List.mem_singleton.mp hm]; exact hd
      · rw [parseDigits_cons hd, hv, parseDigits, Nat.zero_mul, Nat.zero_add, Nat.mod_eq_of_lt hlt]
    · obtain ⟨h1, h2, _⟩ := ih (n / 10) (by omega)
      rw [digitsAux_acc]
      refine ⟨fun d hm => ?_, ?_, by simp⟩
      · rcases List.mem_append.mp hm with hm | hm
        · exact h1 d hm
        · rw [List.mem_singleton.mp hm]; exact hd
      · rw [parseDigits_snoc _ hd, h2, hv, Option.map_some, Nat.div_add_mod']

theorem toDec_digits (n : Nat) : ∀ d ∈ toDec n, isDigit d :=
  (digitsAux_spec (n + 1) n (by omega)).1

theorem toDec_ne_nil (n : Nat) : toDec n ≠ [] :=
  (digitsAux_spec (n + 1) n (by omega)).2.2

theorem parseUsize_toDec (n : Nat) (h : n < Gen.usizeBound) : parseUsize (toDec n) = some n := by
  have hv : parseDigits (toDec n) 0 = some n := (digitsAux_spec (n + 1) n (by omega)).2.1
  -- a digit string is not empty and has no sign for `stripPlus` to take
  have hs : stripPlus (toDec n) = toDec n := by
    match hd : toDec n with
    | [] => rfl
    | d :: ds =>
      have : isDigit d := toDec_digits n d (by rw [hd]; exact List.mem_cons_self)
      unfold stripPlus
      split
      · next heq => cases heq; exact absurd this.1 (by decide)
      · rfl
  rw [parseUsize, hs, hv]
  simp [toDec_ne_nil n, h]

/-- `decode` behind its header test. With two bytes there, `&buf[2..]` is in bounds, and where a
second number is read `buf[4..]` is too. (`op` is a variable so that a caller can put the numeral
its two bytes stand for.) -/
theorem decode_cons {b0 b1 : UInt8} {op : Nat} (hop : b0.toNat * 256 + b1.toNat = op) (rest : Bytes) :
    decode (b0 :: b1 :: rest) =
      match Opcode.ofU16 op with
      | none => .err
      | some .rrq => parseRq (b0 :: b1 :: rest) true
      | some .wrq => parseRq (b0 :: b1 :: rest) false
      | some .data =>
        match toU16 rest with
        | none => .err
        | some n => .ok (.data n (rest.drop 2))
      | some .ack =>
        match toU16 rest with
        | none => .err
        | some n => .ok (.ack n)
      | some .oack =>
        match parseOptions (b0 :: b1 :: rest) (rest.length + 3) 1 [] with
        | .panic => .panic
        | .err => .err
        | .ok os => .ok (.oack os)
      | some .error =>
        match toU16 rest with
        | none => .err
        | some c =>
          match ErrorCode.ofU16 c with
          | none => .err
          | some code =>
            match toStr (b0 :: b1 :: rest) 4 with
            | .panic => .panic
            | .ok (msg, _) => .ok (.error code msg)
            | .err => .ok (.error code noMessage) := by
  subst hop
  match rest with
  | [] | [_] | _ :: _ :: _ => rfl

theorem parseOptions_succ {buf : Bytes} {zi : Nat} (hzi : zi + 1 < buf.length) (fuel : Nat)
    (acc : List TransferOption) :
    parseOptions buf (fuel + 1) zi acc =
      match toStr buf (zi + 1) with
      | .panic => .panic
      | .err => .err
      | .ok (name, zi1) =>
        match toStr buf (zi1 + 1) with
        | .panic => .panic
        | .err => .err
        | .ok (value, zi2) =>
          match OptionType.ofName (lowerName name) with
          | some t =>
            match parseUsize value with
            | some v => parseOptions buf fuel zi2 (acc ++ [{ option := t, value := v }])
            | none => .err
          | none => parseOptions buf fuel zi2 acc := by
  rw [parseOptions, if_neg (by omega), if_pos (by omega)]
  rfl

theorem parseOptions_done {buf : Bytes} {zi : Nat} (h0 : buf ≠ []) (hzi : buf.length ≤ zi + 1)
    (fuel : Nat) (acc : List TransferOption) : parseOptions buf (fuel + 1) zi acc = .ok acc := by
  have := List.length_pos_iff.mpr h0
  rw [parseOptions, if_neg (by omega), if_neg (by omega)]

/-- strings a Rust `String` field can hold and the wire format can carry: valid UTF-8, no NUL -/
def WFStr (s : Bytes) : Prop := validUtf8 s = true ∧ (0 : UInt8) ∉ s

def WFOpt (o : TransferOption) : Prop := o.value < Gen.usizeBound

/-- well-formed packets: what the Rust type `Packet` can hold (`String`s, `usize`, `u16`)
minus strings with an embedded NUL (which the NUL-terminated wire format cannot carry) -/
def WF : Packet → Prop
  | .rrq f m os => WFStr f ∧ WFStr m ∧ ∀ o ∈ os, WFOpt o
  | .wrq f m os => WFStr f ∧ WFStr m ∧ ∀ o ∈ os, WFOpt o
  | .data n _ => n < 65536
  | .ack n => n < 65536
  | .error _ m => WFStr m
  | .oack os => ∀ o ∈ os, WFOpt o

end Tftp
