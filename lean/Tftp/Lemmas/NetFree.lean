import Tftp.Lemmas.NetLoss
/-!
The fault-free closed loop, for every retransmission interval (zero included): the loop stays inside the running
phase `GS` of `Lemmas/NetLoss.lean` in lock step - the receiver is consuming the sender's current window, or has
consumed it and its one acknowledgement is in flight - so no acknowledgement is ever stale and no time-out happens.
-/
namespace Tftp

structure DoneSt (f : Bytes) (st : NetState) : Prop where
  sok : st.s.status = .ok
  rok : st.r.status = .ok
  file : st.r.win.file.content = f

/-- lock step: what is in flight when no datagram is lost, in the ghost parameters of `GS` -/
inductive Aligned (B m R p : Nat) : List Nat → List Nat → Prop where
  /-- the last `n + 1` blocks of the sender's window `[B, B+m)` are in flight towards a receiver that has buffered what came
  before them -/
  | data (n : Nat) (hp : B + p = R + 1) (hn : R + 1 + (n + 1) = B + m) : Aligned B m R p (List.range' (R + 1) (n + 1)) []
  /-- the whole window has been consumed and its acknowledgement is in flight -/
  | ack (hp : p = 0) (htop : R + 1 = B + m) : Aligned B m R p [] [R]

theorem copies_none (n : Nat) : copies Faults.none.dropAck Faults.none.dupAck n = 1 := rfl

theorem applyFaults_faultsNone (n : Nat) (l : List Nat) : applyFaults Faults.none.dropData Faults.none.dupData n l = l :=
  applyFaults_none n l

/-- the measure of the fault-free loop: twice the blocks still to be accepted plus the acknowledgements in flight -/
def ffμ (sc : SCfg) (f : Bytes) (st : NetState) : Nat := 2 * (nblocks sc.b f - st.r.accepted.length) + st.aq.length

theorem GS.ffμ_eq {sc : SCfg} {rc : RCfg} {fl : Faults} {f : Bytes} {st : NetState} {B m R p : Nat} {ds ks : List Nat}
    (h : GS sc rc fl f st B m R p ds ks) : ffμ sc f st = 2 * (nblocks sc.b f - R) + ks.length := by
  rw [ffμ, h.rcv.wait.accepted_length, h.acks.eq, List.length_map]

theorem ff_step {sc : SCfg} {rc : RCfg} (lc : LoopCfg sc rc) {f : Bytes} {st : NetState} {B m R p : Nat} {ds ks : List Nat}
    (h : GS sc rc Faults.none f st B m R p ds ks) (ha : Aligned B m R p ds ks) :
    ∃ st', netStep sc rc Faults.none st = some st' ∧
      ((∃ B m, SA sc rc Faults.none f st' B m [nblocks sc.b f] ∧ st'.dq = []) ∨
        ((∃ B m R p ds ks, GS sc rc Faults.none f st' B m R p ds ks ∧ Aligned B m R p ds ks) ∧
          ffμ sc f st' < ffμ sc f st)) := by
  obtain ⟨hm0, hmw, htop, hfull⟩ := h.snd.bounds lc.hb
  have hRN := h.rel.rltN
  have hμ := h.ffμ_eq
  cases ha with
  | data n hp hn =>
    -- the next block of the window reaches the receiver, in sequence
    rw [List.range'_succ] at h
    obtain ⟨st', hs, -, hdq, hcase⟩ := gs_data lc h
    refine ⟨st', hs, ?_⟩
    cases hcase with
    | final _ hN h' =>
      rw [copies_none] at h'
      refine Or.inl ⟨B, m, hN ▸ h', ?_⟩
      rw [hdq, show n = 0 by omega]; rfl
    | full _ hN hp h' =>
      -- the window is consumed: its acknowledgement goes out
      rw [copies_none] at h'
      obtain rfl : n = 0 := by omega
      refine Or.inr ⟨⟨_, _, _, _, _, _, h', .ack rfl (by omega)⟩, ?_⟩
      rw [h'.ffμ_eq, hμ, List.length_append, List.length_replicate, List.length_nil]
      omega
    | buffered _ hN hp h' =>
      obtain ⟨n, rfl⟩ : ∃ n', n = n' + 1 := ⟨n - 1, by omega⟩
      refine Or.inr ⟨⟨_, _, _, _, _, _, h', .data n (by omega) (by omega)⟩, ?_⟩
      rw [h'.ffμ_eq, hμ]
      omega
    | dup hk _ _ => omega
    | resync hk1 _ _ => exact absurd rfl hk1
  | ack hp hlt =>
    -- the acknowledgement of the whole window reaches the sender
    obtain ⟨st', m', hs, -, h'⟩ := gs_ack_in lc h (by omega)
    rw [applyFaults_faultsNone] at h'
    obtain ⟨n, rfl⟩ : ∃ n, m' = n + 1 := ⟨m' - 1, by have := (h'.snd.bounds lc.hb).1; omega⟩
    refine ⟨st', hs, Or.inr ⟨⟨_, _, _, _, _, _, h', .data n (by omega) rfl⟩, ?_⟩⟩
    rw [h'.ffμ_eq, hμ, List.length_nil, List.length_singleton]
    omega

theorem fault_free_transfer (sc : SCfg) (rc : RCfg) (lc : LoopCfg sc rc) (f : Bytes) :
    ∃ fuel, DoneSt f (netRun sc rc Faults.none fuel (netInit sc rc Faults.none f)) := by
  obtain ⟨m, h0⟩ := gs_init lc Faults.none f
  rw [applyFaults_faultsNone] at h0
  obtain ⟨n, rfl⟩ : ∃ n, m = n + 1 := ⟨m - 1, by have := (h0.snd.bounds lc.hb).1; omega⟩
  refine netRun_trans (Q := fun st => ∃ B m, SA sc rc Faults.none f st B m [nblocks sc.b f] ∧ st.dq = [])
    (netRun_reaches (P := fun st => ∃ B m R p ds ks, GS sc rc Faults.none f st B m R p ds ks ∧ Aligned B m R p ds ks)
      (ffμ sc f)
      (fun _ ⟨_, _, _, _, _, _, h, ha⟩ => ff_step lc h ha) _ ⟨_, _, _, _, _, _, h0, .data n rfl (by omega)⟩) ?_
  -- the final acknowledgement reaches the sender
  rintro st ⟨B, m, h, hdq⟩
  obtain ⟨hm0, -, -, -⟩ := h.snd.bounds lc.hb
  obtain ⟨hrok, hrfile, hstop, -⟩ := h.rend.of_cons
  obtain ⟨-, t, hstep, hok⟩ | ⟨hlt, -⟩ := h.snd.ack lc.hb lc.hw (k := nblocks sc.b f) (by omega) (by omega)
  · refine ⟨1, ?_⟩
    rw [netRun, netStep_ack sc rc Faults.none hdq h.acks.eq h.snd.wait.running, hstep]
    exact ⟨hok, hrok, hrfile⟩
  · exact absurd hlt (Nat.lt_irrefl _)

end Tftp
