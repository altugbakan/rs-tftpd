import Tftp.Lemmas.Codec
/-! The decoder never panics, and whatever it accepts is well-formed: each parser returns `err` or
`ok` of something well-formed, given that it starts inside the buffer. -/
namespace Tftp

theorem toStr_spec {buf : Bytes} {i : Nat} (hi : i ≤ buf.length) :
    toStr buf i = .err ∨
      ∃ s, toStr buf i = .ok (s, i + s.length) ∧ WFStr s ∧ i + s.length < buf.length := by
  rw [toStr, if_neg (Nat.not_lt.mpr hi)]
  cases h : splitZero (buf.drop i) with
  | none => exact .inl rfl
  | some sr =>
    obtain ⟨hd, h0⟩ := splitZero_some h
    by_cases hv : validUtf8 sr.1 = true
    · exact .inr ⟨sr.1, if_pos hv, ⟨hv, h0⟩, lt_of_drop hd⟩
    · exact .inl (if_neg hv)

theorem parseUsize_lt {s : Bytes} {n : Nat} (h : parseUsize s = some n) : n < Gen.usizeBound := by
  unfold parseUsize at h
  simp only at h
  split at h
  · cases h
  · split at h
    · split at h
      · cases h; assumption
      · cases h
    · cases h

theorem parseOptions_spec (buf : Bytes) :
    ∀ (fuel zi : Nat) (acc : List TransferOption), zi < buf.length → buf.length - zi < fuel →
      (∀ o ∈ acc, WFOpt o) →
      parseOptions buf fuel zi acc = .err ∨
        ∃ os, parseOptions buf fuel zi acc = .ok os ∧ ∀ o ∈ os, WFOpt o := by
  intro fuel
  induction fuel with
  | zero => intro zi acc _ h; omega
  | succ f ih =>
    intro zi acc hzi hf hacc
    by_cases hlt : zi + 1 < buf.length
    · rw [parseOptions_succ hlt]
      obtain e | ⟨name, e, -, h1⟩ := toStr_spec (Nat.le_of_lt hlt) <;> rw [e]
      · exact .inl rfl
      obtain e | ⟨value, e, -, h2⟩ := toStr_spec (Nat.succ_le_of_lt h1) <;> dsimp only <;> rw [e]
      · exact .inl rfl
      dsimp only
      cases OptionType.ofName (lowerName name) with
      | none => exact ih _ _ h2 (by omega) hacc
      | some t =>
        cases hv : parseUsize value with
        | none => exact .inl rfl
        | some v =>
          refine ih _ _ h2 (by omega) fun o ho => ?_
          rcases List.mem_append.mp ho with ho | ho
          · exact hacc o ho
          · rw [List.mem_singleton.mp ho]; exact parseUsize_lt hv
    · rw [parseOptions_done (List.ne_nil_of_length_pos (by omega)) (by omega)]
      exact .inr ⟨acc, rfl, hacc⟩

theorem parseRq_spec {buf : Bytes} (h : 2 ≤ buf.length) (isRrq : Bool) :
    parseRq buf isRrq = .err ∨ ∃ p, parseRq buf isRrq = .ok p ∧ WF p := by
  rw [parseRq]
  obtain e | ⟨f, e, hf, h1⟩ := toStr_spec h <;> rw [e]
  · exact .inl rfl
  obtain e | ⟨m, e, hm, h2⟩ := toStr_spec (Nat.succ_le_of_lt h1) <;> dsimp only <;> rw [e]
  · exact .inl rfl
  obtain e | ⟨os, e, hos⟩ := parseOptions_spec buf (buf.length + 1) _ [] h2 (by omega) (by simp)
    <;> dsimp only <;> rw [e]
  · exact .inl rfl
  · exact .inr ⟨_, rfl, by cases isRrq <;> exact ⟨hf, hm, hos⟩⟩

theorem noMessage_wf : WFStr noMessage := by
  unfold WFStr; decide

theorem decode_spec (buf : Bytes) : decode buf = .err ∨ ∃ p, decode buf = .ok p ∧ WF p := by
  match buf with
  | [] | [_] => exact .inl rfl
  | b0 :: b1 :: rest =>
    rw [decode_cons rfl]
    cases Opcode.ofU16 (b0.toNat * 256 + b1.toNat) with
    | none => exact .inl rfl
    | some o =>
      cases o with
      | rrq => exact parseRq_spec (by simp) true
      | wrq => exact parseRq_spec (by simp) false
      | data | ack =>
        cases h : toU16 rest with
        | none => exact .inl rfl
        | some n => exact .inr ⟨_, rfl, (toU16_lt h).1⟩
      | oack =>
        obtain e | ⟨os, e, hos⟩ :=
          parseOptions_spec (b0 :: b1 :: rest) (rest.length + 3) 1 [] (by simp) (by simp) (by simp)
          <;> dsimp only <;> rw [e]
        · exact .inl rfl
        · exact .inr ⟨_, rfl, hos⟩
      | error =>
        cases h : toU16 rest with
        | none => exact .inl rfl
        | some c =>
          dsimp only
          cases ErrorCode.ofU16 c with
          | none => exact .inl rfl
          | some code =>
            have h4 : 4 ≤ (b0 :: b1 :: rest).length := Nat.add_le_add_right (toU16_lt h).2 2
            obtain e | ⟨msg, e, hmsg, -⟩ := toStr_spec h4 <;> dsimp only <;> rw [e]
            · exact .inr ⟨_, rfl, noMessage_wf⟩
            · exact .inr ⟨_, rfl, hmsg⟩

end Tftp
