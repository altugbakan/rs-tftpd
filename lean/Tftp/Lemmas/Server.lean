import Tftp.Model.Server
/-!
Lemmas about the server model: paths (the segments of a path are contiguous pieces of it, `components`
of a joined path); `parse_options` in closed form, its guards in numbers, the values it cannot honour (`Unhonourable`)
and what it guarantees of the worker's parameters (`SaneOptions`); the shapes a reaction of the listener can take.
-/
namespace Tftp

theorem splitOnSlash_ne_nil (p : Bytes) : splitOnSlash p ≠ [] := by
  cases p with
  | nil => simp [splitOnSlash]
  | cons c rest =>
    rw [splitOnSlash]
    split
    · simp
    · split <;> simp

theorem splitOnSlash_slash_cons (rest : Bytes) : splitOnSlash (slash :: rest) = [] :: splitOnSlash rest := by
  rw [splitOnSlash]
  split
  · rename_i h; exact absurd h (splitOnSlash_ne_nil rest)
  · rename_i h; rw [h]; rfl

theorem splitOnSlash_cons_of_ne {c : UInt8} {rest cur : Bytes} {more : List Bytes} (hc : c ≠ slash)
    (h : splitOnSlash rest = cur :: more) : splitOnSlash (c :: rest) = (c :: cur) :: more := by
  rw [splitOnSlash, h]
  simp [hc]

theorem splitOnSlash_append_slash (a b : Bytes) :
    splitOnSlash (a ++ slash :: b) = splitOnSlash a ++ splitOnSlash b := by
  induction a with
  | nil => exact splitOnSlash_slash_cons b
  | cons c rest ih =>
    by_cases hc : c = slash
    · subst hc
      rw [List.cons_append, splitOnSlash_slash_cons, splitOnSlash_slash_cons, ih, List.cons_append]
    · obtain ⟨cur, more, e⟩ := List.exists_cons_of_ne_nil (splitOnSlash_ne_nil rest)
      rw [List.cons_append, splitOnSlash_cons_of_ne hc e, splitOnSlash_cons_of_ne hc (by rw [ih, e]; rfl)]
      rfl

/-- the first segment is a prefix of the string, every other segment a contiguous piece of it -/
theorem splitOnSlash_infix (p : Bytes) :
    ∃ cur more, splitOnSlash p = cur :: more ∧ cur <+: p ∧ ∀ s ∈ more, s <:+: p := by
  induction p with
  | nil => exact ⟨[], [], rfl, List.prefix_refl _, by simp⟩
  | cons c rest ih =>
    obtain ⟨cur, more, e, hcur, hmore⟩ := ih
    by_cases hc : c = slash
    · subst hc
      refine ⟨[], cur :: more, by rw [splitOnSlash_slash_cons, e], List.nil_prefix, ?_⟩
      intro s hs
      rcases List.mem_cons.mp hs with rfl | hs
      · exact List.infix_cons hcur.isInfix
      · exact List.infix_cons (hmore s hs)
    · exact ⟨c :: cur, more, splitOnSlash_cons_of_ne hc e, (List.prefix_cons_inj c).mpr hcur,
        fun s hs => List.infix_cons (hmore s hs)⟩

theorem infix_of_mem_splitOnSlash {p s : Bytes} (h : s ∈ splitOnSlash p) : s <:+: p := by
  obtain ⟨cur, more, e, hcur, hmore⟩ := splitOnSlash_infix p
  rw [e] at h
  rcases List.mem_cons.mp h with rfl | h
  · exact hcur.isInfix
  · exact hmore _ h

theorem components_nil : components [] = [] := rfl

theorem components_append_slash (a b : Bytes) :
    components (a ++ slash :: b) = components a ++ components b := by
  unfold components
  rw [splitOnSlash_append_slash, List.filter_append]

/-- `join` keeps the directory's components in front, whatever is appended -/
theorem components_joinPath (dir rel : Bytes) :
    components (joinPath dir rel) = components dir ++ components rel := by
  unfold joinPath
  split
  · rename_i hc
    rcases Bool.or_eq_true_iff.mp hc with hc | hc
    · obtain ⟨d, rfl⟩ := List.getLast?_eq_some_iff.mp (beq_iff_eq.mp hc)
      rw [List.append_assoc, List.singleton_append, components_append_slash, components_append_slash,
        components_nil, List.append_nil]
    · rw [List.isEmpty_iff.mp hc]; rfl
  · rw [List.append_assoc, List.singleton_append, components_append_slash]

theorem hasDotDot_append_left (a b : Bytes) (h : hasDotDot (a ++ b) = false) : hasDotDot b = false := by
  induction a with
  | nil => exact h
  | cons c rest ih =>
    apply ih
    rw [List.cons_append] at h
    generalize rest ++ b = l at h ⊢
    cases l with
    | nil => rfl
    | cons d r => rw [hasDotDot] at h; exact (Bool.or_eq_false_iff.mp h).2

/-- the guards of `parse_options`: a value that makes it return `Err` -/
def rejected (o : TransferOption) : Bool :=
  match o.option with
  | .blksize => Gen.blksizeChecked && (o.value < Gen.blksizeMin || o.value > Gen.blksizeMax)
  | .tsize => false
  | .timeout => o.value = 0 || o.value > Gen.timeoutMax
  | .windowsize => o.value = 0 || o.value > 65535

/-- the value acknowledged for `tsize`: the file's size on a read, the client's value on a write -/
def tsizeAck (rt : ReqType) (requested : Nat) : Nat :=
  match rt with
  | .read size => size
  | .write => requested

/-- what an option that passes its guard does to the worker's parameters -/
def applyOption (rt : ReqType) (wo : WorkerOptions) (o : TransferOption) : WorkerOptions :=
  match o.option with
  | .blksize => { wo with blockSize := o.value }
  | .tsize => { wo with transferSize := tsizeAck rt o.value }
  | .timeout => { wo with timeoutS := o.value }
  | .windowsize => { wo with windowSize := o.value }

/-- the option as it is acknowledged -/
def ackFor (rt : ReqType) (o : TransferOption) : TransferOption :=
  match o.option with
  | .tsize => { o with value := tsizeAck rt o.value }
  | _ => o

theorem ackFor_spec (rt : ReqType) (o : TransferOption) :
    (ackFor rt o).option = o.option ∧ (o.option ≠ .tsize → (ackFor rt o).value = o.value) ∧
    (o.option = .tsize → (ackFor rt o).value = tsizeAck rt o.value) := by
  obtain ⟨opt, v⟩ := o
  cases opt <;> simp [ackFor]

theorem parseOptionsLoop_cons (rt : ReqType) (o : TransferOption) (rest : List TransferOption)
    (wo : WorkerOptions) (acc : List TransferOption) :
    parseOptionsLoop rt (o :: rest) wo acc =
      if rejected o then none else parseOptionsLoop rt rest (applyOption rt wo o) (ackFor rt o :: acc) := by
  obtain ⟨opt, v⟩ := o
  cases opt <;> cases rt <;> rfl

theorem parseOptionsLoop_eq (rt : ReqType) (os : List TransferOption) (wo : WorkerOptions)
    (acc : List TransferOption) :
    parseOptionsLoop rt os wo acc =
      if os.any rejected then none
      else some (os.foldl (applyOption rt) wo, acc.reverse ++ os.map (ackFor rt)) := by
  induction os generalizing wo acc with
  | nil => simp [parseOptionsLoop]
  | cons o rest ih =>
    rw [parseOptionsLoop_cons, ih, List.any_cons]
    cases rejected o <;> simp

/-- **`parse_options` in closed form**: it fails iff some option fails its guard; otherwise the options
are applied to the defaults in order (so the last of a kind wins) and each is acknowledged in place -/
theorem parseWorkerOptions_eq (os : List TransferOption) (rt : ReqType) :
    parseWorkerOptions os rt =
      if os.any rejected then none
      else some (os.foldl (applyOption rt) defaultOptions, os.map (ackFor rt)) :=
  parseOptionsLoop_eq rt os defaultOptions []

theorem parseWorkerOptions_eq_some {os : List TransferOption} {rt : ReqType} {wo : WorkerOptions}
    {acked : List TransferOption} :
    parseWorkerOptions os rt = some (wo, acked) ↔
      os.any rejected = false ∧ os.foldl (applyOption rt) defaultOptions = wo ∧ os.map (ackFor rt) = acked := by
  rw [parseWorkerOptions_eq]
  cases os.any rejected <;> simp

/-- the guards in numbers, with the limits the current source text has (`Generated.lean`); the time-out's upper limit stays
symbolic so that a changed limit is reported where a theorem states it in numbers -/
theorem rejected_blksize (v : Nat) : rejected { option := .blksize, value := v } = false ↔ 8 ≤ v ∧ v ≤ 65464 := by
  show (true && (decide (v < 8) || decide (v > 65464))) = false ↔ _
  simp only [Bool.true_and, Bool.or_eq_false_iff, decide_eq_false_iff_not]
  omega

theorem rejected_timeout (v : Nat) : rejected { option := .timeout, value := v } = false ↔ 1 ≤ v ∧ v ≤ Gen.timeoutMax := by
  show (decide (v = 0) || decide (v > Gen.timeoutMax)) = false ↔ _
  simp only [Bool.or_eq_false_iff, decide_eq_false_iff_not]
  omega

theorem rejected_windowsize (v : Nat) :
    rejected { option := .windowsize, value := v } = false ↔ 1 ≤ v ∧ v ≤ 65535 := by
  show (decide (v = 0) || decide (v > 65535)) = false ↔ _
  simp only [Bool.or_eq_false_iff, decide_eq_false_iff_not]
  omega

/-- an option value the server cannot honour makes `parse_options` fail -/
def Unhonourable (o : TransferOption) : Prop :=
  (o.option = .blksize ∧ (o.value < 8 ∨ o.value > 65464)) ∨
  (o.option = .timeout ∧ o.value = 0) ∨
  (o.option = .windowsize ∧ (o.value = 0 ∨ o.value > 65535))

theorem rejected_of_unhonourable {o : TransferOption} (h : Unhonourable o) : rejected o = true := by
  obtain ⟨opt, v⟩ := o
  rw [← Bool.not_eq_false]
  rcases h with ⟨rfl, hv⟩ | ⟨rfl, hv⟩ | ⟨rfl, hv⟩
  · rw [rejected_blksize]; dsimp only at hv; omega
  · rw [rejected_timeout]; dsimp only at hv; omega
  · rw [rejected_windowsize]; dsimp only at hv; omega

/-- what `parse_options` guarantees about the worker's parameters -/
def SaneOptions (wo : WorkerOptions) : Prop :=
  8 ≤ wo.blockSize ∧ wo.blockSize ≤ 65464 ∧ 1 ≤ wo.windowSize ∧ wo.windowSize ≤ 65535 ∧
  1 ≤ wo.timeoutS ∧ wo.timeoutS ≤ Gen.timeoutMax

theorem defaultOptions_sane : SaneOptions defaultOptions := by
  unfold SaneOptions
  decide

/-- each option overwrites one parameter, with a value its guard has bounded -/
theorem applyOption_sane (rt : ReqType) {wo : WorkerOptions} {o : TransferOption} (hs : SaneOptions wo)
    (ho : rejected o = false) : SaneOptions (applyOption rt wo o) := by
  obtain ⟨opt, v⟩ := o
  obtain ⟨b1, b2, w1, w2, t1, t2⟩ := hs
  cases opt
  · exact ⟨((rejected_blksize v).mp ho).1, ((rejected_blksize v).mp ho).2, w1, w2, t1, t2⟩
  · exact ⟨b1, b2, w1, w2, t1, t2⟩
  · exact ⟨b1, b2, w1, w2, (rejected_timeout v).mp ho⟩
  · exact ⟨b1, b2, ((rejected_windowsize v).mp ho).1, ((rejected_windowsize v).mp ho).2, t1, t2⟩

theorem foldl_applyOption_sane (rt : ReqType) (os : List TransferOption) {wo : WorkerOptions}
    (hs : SaneOptions wo) (ho : os.any rejected = false) : SaneOptions (os.foldl (applyOption rt) wo) := by
  induction os generalizing wo with
  | nil => exact hs
  | cons o rest ih =>
    rw [List.any_cons, Bool.or_eq_false_iff] at ho
    exact ih (applyOption_sane rt hs ho.1) ho.2

theorem checkFileExists_of_invalid {fs : Fs} {p : Bytes} (h : validateFilePath p = false) :
    checkFileExists fs p = .accessViolation := by
  simp [checkFileExists, h]

theorem checkFileExists_of_missing {fs : Fs} {p : Bytes} (hv : validateFilePath p = true) (hm : fs.stat p = none) :
    checkFileExists fs p = .fileNotFound := by
  simp [checkFileExists, hv, hm]

theorem checkFileExists_of_present {fs : Fs} {p : Bytes} (hv : validateFilePath p = true)
    (hs : (fs.stat p).isSome = true) : checkFileExists fs p = .fileExists := by
  simp [checkFileExists, hv, Option.isSome_iff_ne_none.mp hs]

theorem checkFileExists_cases (fs : Fs) (p : Bytes) :
    (validateFilePath p = false ∧ checkFileExists fs p = .accessViolation) ∨
    (validateFilePath p = true ∧ fs.stat p = none ∧ checkFileExists fs p = .fileNotFound) ∨
    (validateFilePath p = true ∧ (fs.stat p).isSome = true ∧ checkFileExists fs p = .fileExists) := by
  cases hv : validateFilePath p
  · exact .inl ⟨rfl, checkFileExists_of_invalid hv⟩
  · cases hs : fs.stat p
    · exact .inr (.inl ⟨rfl, rfl, checkFileExists_of_missing hv hs⟩)
    · exact .inr (.inr ⟨rfl, rfl, checkFileExists_of_present hv (by rw [hs]; rfl)⟩)

/-- the reaction that accepts a read request: an OACK if any option was acknowledged (then the worker waits for the reply to
it), and a `send` worker on the validated path -/
abbrev acceptedRead (cfg : SrvCfg) (name : Bytes) (wo : WorkerOptions) (acked : List TransferOption) : Reaction :=
  { reply := if acked.isEmpty then none else some (.transfer, .oack acked),
    worker := some { kind := .send, path := joinPath cfg.sendDir (convertFilePath name), opts := wo,
                     checkResponse := !acked.isEmpty, rep := cfg.dup + 1 } }

/-- the reaction that accepts a write request: OACK or ACK 0, and a `receive` worker -/
abbrev acceptedWrite (cfg : SrvCfg) (name : Bytes) (wo : WorkerOptions) (acked : List TransferOption) : Reaction :=
  { reply := some (.transfer, if acked.isEmpty then .ack 0 else .oack acked),
    worker := some { kind := .receive, path := joinPath cfg.recvDir (convertFilePath name), opts := wo,
                     checkResponse := false, rep := cfg.dup + 1 } }

theorem handleRrq_cases (cfg : SrvCfg) (fs : Fs) (name : Bytes) (os : List TransferOption) :
    (∃ code, handleRrq cfg fs name os = errorReply code) ∨ handleRrq cfg fs name os = noReaction ∨
    ∃ wo acked, validateFilePath (joinPath cfg.sendDir (convertFilePath name)) = true ∧
      parseWorkerOptions os (.read (fileSize fs (joinPath cfg.sendDir (convertFilePath name)))) = some (wo, acked) ∧
      handleRrq cfg fs name os =
        acceptedRead cfg name wo acked := by
  -- the goal mentions the reaction three times: name it, and analyse its defining equation once
  generalize hr : handleRrq cfg fs name os = r
  unfold handleRrq at hr
  rcases checkFileExists_cases fs (joinPath cfg.sendDir (convertFilePath name)) with
    ⟨_, e⟩ | ⟨_, _, e⟩ | ⟨hv, _, e⟩ <;> simp only [e] at hr
  · exact .inl ⟨_, hr.symm⟩
  · exact .inl ⟨_, hr.symm⟩
  · split at hr
    · exact .inr (.inl hr.symm)
    · next hp => exact .inr (.inr ⟨_, _, hv, hp, hr.symm⟩)

theorem handleWrq_cases (cfg : SrvCfg) (fs : Fs) (name : Bytes) (os : List TransferOption) :
    (∃ code, handleWrq cfg fs name os = errorReply code) ∨ handleWrq cfg fs name os = noReaction ∨
    ∃ wo acked, validateFilePath (joinPath cfg.recvDir (convertFilePath name)) = true ∧
      parseWorkerOptions os .write = some (wo, acked) ∧
      handleWrq cfg fs name os =
        acceptedWrite cfg name wo acked := by
  generalize hr : handleWrq cfg fs name os = r
  unfold handleWrq at hr
  rcases checkFileExists_cases fs (joinPath cfg.recvDir (convertFilePath name)) with
    ⟨_, e⟩ | ⟨hv, _, e⟩ | ⟨hv, _, e⟩ <;> simp only [e] at hr
  · exact .inl ⟨_, hr.symm⟩
  · split at hr
    · exact .inr (.inl hr.symm)
    · next hp => exact .inr (.inr ⟨_, _, hv, hp, hr.symm⟩)
  · split at hr
    · split at hr
      · exact .inr (.inl hr.symm)
      · next hp => exact .inr (.inr ⟨_, _, hv, hp, hr.symm⟩)
    · exact .inl ⟨_, hr.symm⟩

/-- **the listener's decision table**: whatever the datagram, the reaction is one ERROR from the listening
socket, silence, an accepted read or an accepted write -/
theorem handleDatagram_cases (cfg : SrvCfg) (fs : Fs) (largest : Nat) (dgram : Bytes) :
    (∃ code, handleDatagram cfg fs largest dgram = errorReply code) ∨
    handleDatagram cfg fs largest dgram = noReaction ∨
    (∃ name os wo acked, validateFilePath (joinPath cfg.sendDir (convertFilePath name)) = true ∧
      parseWorkerOptions os (.read (fileSize fs (joinPath cfg.sendDir (convertFilePath name)))) = some (wo, acked) ∧
      handleDatagram cfg fs largest dgram =
        acceptedRead cfg name wo acked) ∨
    (∃ name os wo acked, validateFilePath (joinPath cfg.recvDir (convertFilePath name)) = true ∧
      parseWorkerOptions os .write = some (wo, acked) ∧
      handleDatagram cfg fs largest dgram =
        acceptedWrite cfg name wo acked) := by
  generalize hr : handleDatagram cfg fs largest dgram = r
  dsimp only [handleDatagram] at hr
  generalize decode (dgram.take _) = d at hr
  split at hr
  · next name _ os =>
    rw [← hr]
    rcases handleRrq_cases cfg fs name os with h | h | h
    · exact .inl h
    · exact .inr (.inl h)
    · exact .inr (.inr (.inl ⟨name, os, h⟩))
  · next name _ os =>
    split at hr
    · exact .inl ⟨_, hr.symm⟩
    · rw [← hr]
      rcases handleWrq_cases cfg fs name os with h | h | h
      · exact .inl h
      · exact .inr (.inl h)
      · exact .inr (.inr (.inr ⟨name, os, h⟩))
  · exact .inl ⟨_, hr.symm⟩
  · exact .inr (.inl hr.symm)

end Tftp
