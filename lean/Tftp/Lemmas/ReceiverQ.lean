import Tftp.Model.ReceiverQ
import Tftp.Lemmas.Receiver
/-!
The receiver on a target with limited room (`Model/ReceiverQ.lean`). `rStep` and `rStepQ` take the same decision on every
event (`rDecide`) and differ only in the flush that carries it out. So wherever the two flushes agree `rStepQ` is `rStep`:
with unlimited room on a writable file, and with no room on a file that cannot be written (`rInitUnwritable`, every
non-empty `write_all` fails). With any room, at every moment of every run, the file is a prefix of the bytes received in
sequence and never longer than the room allowed, every ACK is emitted over a file that holds all of them, and success
means the file holds everything (`QInv`).
-/
namespace Tftp

/-! ### the write loop -/

theorem writeQ_none (es : List Bytes) (f : FileSt) : writeQ f none es = (es.foldl FileSt.write f, none, true) := by
  induction es generalizing f with
  | nil => rfl
  | cons d ds ih => exact ih _

theorem writeQ_some (es : List Bytes) (f : FileSt) (r : Nat) :
    (es.flatten.length ≤ r ∧ writeQ f (some r) es = (es.foldl FileSt.write f, some (r - es.flatten.length), true)) ∨
    (r < es.flatten.length ∧ ∃ f', writeQ f (some r) es = (f', some 0, false) ∧ f'.content = f.content ++ es.flatten.take r) := by
  induction es generalizing f r with
  | nil => exact .inl ⟨Nat.zero_le _, rfl⟩
  | cons d ds ih =>
    rw [writeQ, List.flatten_cons, List.length_append]
    by_cases hd : d.length ≤ r
    · rw [if_pos hd]
      rcases ih (f.write d) (r - d.length) with ⟨h1, h2⟩ | ⟨h1, f', h2, h3⟩
      · exact .inl ⟨by omega, by rw [h2, Nat.sub_sub]; rfl⟩
      · refine .inr ⟨by omega, f', h2, ?_⟩
        rw [h3, write_content, List.take_append, List.take_of_length_le hd, List.append_assoc]
    · rw [if_neg hd]
      refine .inr ⟨by omega, _, rfl, ?_⟩
      rw [write_content, List.take_append, show r - d.length = 0 by omega, List.take_zero, List.append_nil]

/-- what the invariant needs of the loop, whatever the room: the room shrinks by exactly what the file grows -/
theorem writeQ_spec (es : List Bytes) (f : FileSt) (room : Option Nat) :
    (writeQ f room es).2.1.map ((writeQ f room es).1.content.length + ·) = room.map (f.content.length + ·) ∧
    (writeQ f room es).1.content <+: f.content ++ es.flatten ∧
    ((writeQ f room es).2.2 = true → (writeQ f room es).1.content = f.content ++ es.flatten) := by
  have hall := foldl_write_content es f
  cases room with
  | none => rw [writeQ_none]; exact ⟨rfl, hall ▸ List.prefix_refl _, fun _ => hall⟩
  | some r =>
    rcases writeQ_some es f r with ⟨h1, h2⟩ | ⟨h1, f', h2, h3⟩
    · rw [h2]
      refine ⟨congrArg some ?_, hall ▸ List.prefix_refl _, fun _ => hall⟩
      show _ + _ = _ + _
      rw [hall, List.length_append, Nat.add_assoc, Nat.add_sub_cancel' h1]
    · rw [h2]
      refine ⟨congrArg some ?_, h3 ▸ (List.prefix_append_right_inj _).mpr (List.take_prefix _ _), fun h => nomatch h⟩
      show _ + _ = _ + _
      rw [h3, List.length_append, List.length_take, Nat.min_eq_left (Nat.le_of_lt h1), Nat.add_zero]

/-! ### no step changes the file handle, or its mode -/

theorem rDecide_file (b : Nat) (s : RState) (ev : REv) : (rDecide b s ev).state.win.file = s.win.file := by
  obtain ⟨t, ht, -, hwin, -⟩ | ⟨-, ht | ⟨n, p, -, -, ht⟩⟩ := rDecide_cases b s ev
  · rw [ht, RAct.state, hwin]
  · rw [ht]; rfl
  · rw [ht]; rfl

theorem markOk_win (r : RState × List AckObs) : (markOk r).1.win = r.1.win := by
  unfold markOk; split <;> rfl

theorem flushAck_canWrite (c : RCfg) (s : RState) : (flushAck c s).1.win.file.canWrite = s.win.file.canWrite := by
  by_cases h : (!s.win.file.canWrite && s.win.elems.any fun d => !d.isEmpty) = true
  · simp only [flushAck, Window.empty, h, ↓reduceIte]
  · simp only [flushAck, Window.empty, h]
    exact foldl_write_canWrite _ _

theorem RAct.run_canWrite (c : RCfg) (a : RAct) : (a.run c).1.win.file.canWrite = a.state.win.file.canWrite := by
  cases a with
  | stay t => rfl
  | flush t => exact flushAck_canWrite c t
  | finish t => exact (congrArg (·.file.canWrite) (markOk_win _)).trans (flushAck_canWrite c t)

theorem rStep_canWrite (c : RCfg) (s : RState) (ev : REv) : (rStep c s ev).1.win.file.canWrite = s.win.file.canWrite := by
  rw [rStep_eq, RAct.run_canWrite, rDecide_file]

/-! ### `rStepQ` is the same decision with its own flush -/

def RAct.runQ (c : RCfg) (room : Option Nat) : RAct → RState × Option Nat × List AckObs
  | .stay t => (t, room, [])
  | .flush t => flushAckQ c t room
  | .finish t => markOkQ (flushAckQ c t room)

theorem rStepQ_eq (c : RCfg) (s : RState) (room : Option Nat) (ev : REv) :
    rStepQ c s room ev = (rDecide c.b s ev).runQ c room := by
  obtain ⟨bn, win, retry, status, accepted⟩ := s
  cases status with
  | running =>
    cases ev with
    | error => rfl
    | fail => simp only [rStepQ, rDecide, apply_ite (RAct.runQ c room)]; rfl
    | data n p =>
      by_cases hfull : win.len = win.size
      · simp only [rStepQ, rDecide, apply_ite (RAct.runQ c room), hfull, Window.add_full p hfull, ↓reduceIte]; rfl
      · simp only [rStepQ, rDecide, apply_ite (RAct.runQ c room), hfull, Window.add_eq p hfull, ↓reduceIte]; rfl
  | ok | failed => rfl

theorem markOkQ_lift (x : RState × List AckObs) (room : Option Nat) :
    markOkQ (x.1, room, x.2) = ((markOk x).1, room, (markOk x).2) := rfl

theorem RAct.runQ_eq_run {c : RCfg} {room : Option Nat} {a : RAct}
    (h : flushAckQ c a.state room = ((flushAck c a.state).1, room, (flushAck c a.state).2)) :
    a.runQ c room = ((a.run c).1, room, (a.run c).2) := by
  cases a with
  | stay t => rfl
  | flush t => exact h
  | finish t => exact (congrArg markOkQ h).trans (markOkQ_lift _ _)

/-- **refinement**: wherever the two flushes agree on the file at hand, the limited-room receiver is the receiver of
`Model/Receiver.lean` -/
theorem rStepQ_eq_rStep (c : RCfg) (s : RState) (room : Option Nat) (ev : REv)
    (h : ∀ t : RState, t.win.file = s.win.file → flushAckQ c t room = ((flushAck c t).1, room, (flushAck c t).2)) :
    rStepQ c s room ev = ((rStep c s ev).1, room, (rStep c s ev).2) := by
  rw [rStepQ_eq, rStep_eq]
  exact RAct.runQ_eq_run (h _ (rDecide_file c.b s ev))

theorem flushAckQ_none (c : RCfg) {s : RState} (hcw : s.win.file.canWrite = true) :
    flushAckQ c s none = ((flushAck c s).1, none, (flushAck c s).2) := by
  rw [flushAck_eq c hcw, flushAckQ, writeQ_none]
  rfl

theorem rStepQ_none (c : RCfg) (s : RState) (hcw : s.win.file.canWrite = true) (ev : REv) :
    rStepQ c s none ev = ((rStep c s ev).1, none, (rStep c s ev).2) :=
  rStepQ_eq_rStep c s none ev fun _ ht => flushAckQ_none c (ht ▸ hcw)

/-! ### the invariant `QInv` -/

structure QInv (q : Option Nat) (s : RState) (room : Option Nat) : Prop where
  stored : s.status ≠ .failed → s.win.file.content ++ s.win.elems.flatten = s.received.flatten
  pre : s.win.file.content <+: s.received.flatten
  room_some : ∀ r, room = some r → ∃ q0, q = some q0 ∧ s.win.file.content.length + r = q0
  some_stays : ∀ q0, q = some q0 → ∃ r, room = some r
  okEmpty : s.status = .ok → s.win.elems = []

/-- the two clauses about the room say that the room left and the length of the file add up to the room there was -/
theorem QInv.room_eq {q : Option Nat} {s : RState} {room : Option Nat} (h : QInv q s room) :
    room.map (s.win.file.content.length + ·) = q := by
  cases room with
  | some r => obtain ⟨q0, hq, hlen⟩ := h.room_some r rfl; rw [hq, ← hlen]; rfl
  | none =>
    cases q with
    | none => rfl
    | some q0 => obtain ⟨r, hr⟩ := h.some_stays q0 rfl; cases hr

theorem QInv.of_room_eq {q : Option Nat} {s : RState} {room : Option Nat}
    (stored : s.status ≠ .failed → s.win.file.content ++ s.win.elems.flatten = s.received.flatten)
    (pre : s.win.file.content <+: s.received.flatten) (hroom : room.map (s.win.file.content.length + ·) = q)
    (okEmpty : s.status = .ok → s.win.elems = []) : QInv q s room := by
  subst hroom
  refine ⟨stored, pre, fun r hr => ⟨_, hr ▸ rfl, rfl⟩, fun q0 hq => ?_, okEmpty⟩
  cases room with
  | none => cases hq
  | some r => exact ⟨r, rfl⟩

theorem QInv.le_room {q : Option Nat} {s : RState} {room : Option Nat} (h : QInv q s room) {q0 : Nat} (hq : q = some q0) :
    s.win.file.content.length ≤ q0 := by
  obtain ⟨r, hr⟩ := h.some_stays q0 hq
  obtain ⟨q1, hq1, hlen⟩ := h.room_some r hr
  cases hq.symm.trans hq1
  exact hlen ▸ Nat.le_add_right _ _

theorem QInv.stored_of_empty {q : Option Nat} {s : RState} {room : Option Nat} (h : QInv q s room) (hne : s.status ≠ .failed)
    (he : s.win.elems = []) : s.win.file.content = s.received.flatten := by
  have := h.stored hne
  rwa [he, List.flatten_nil, List.append_nil] at this

theorem QInv.ok_stored {q : Option Nat} {s : RState} {room : Option Nat} (h : QInv q s room) (hok : s.status = .ok) :
    s.win.file.content = s.received.flatten :=
  h.stored_of_empty (by rw [hok]; decide) (h.okEmpty hok)

theorem QInv.init {s : RState} (hc : s.win.file.content = []) (he : s.win.elems = []) (ha : s.accepted = [])
    (hs : s.status = .running) (q : Option Nat) : QInv q s q :=
  .of_room_eq (fun _ => by rw [hc, he, RState.received, ha]; rfl) (by rw [hc]; exact List.nil_prefix) (by rw [hc]; cases q <;> simp)
    fun hk => nomatch hs.symm.trans hk

/-- the invariant reads neither the block number nor the retry counter; it survives a failure, and the end of the transfer once
nothing is pending -/
theorem QInv.congr {q : Option Nat} {s t : RState} {room : Option Nat} (h : QInv q s room) (hwin : t.win = s.win)
    (hacc : t.accepted = s.accepted)
    (hst : t.status = s.status ∨ t.status = .failed ∨ t.status = .ok ∧ s.status = .running ∧ s.win.elems = []) :
    QInv q t room := by
  have hrec : t.received = s.received := congrArg List.reverse hacc
  refine ⟨fun hne => ?_, by rw [hwin, hrec]; exact h.pre, by rw [hwin]; exact h.room_some, h.some_stays, fun hok => ?_⟩
  · rw [hwin, hrec]
    refine h.stored ?_
    rcases hst with e | e | ⟨-, e, -⟩
    · exact e ▸ hne
    · exact absurd e hne
    · rw [e]; decide
  · rw [hwin]
    rcases hst with e | e | ⟨-, -, e⟩
    · exact h.okEmpty (e ▸ hok)
    · exact nomatch e.symm.trans hok
    · exact e

theorem QInv.accept {q : Option Nat} {s : RState} {room : Option Nat} (h : QInv q s room) (hrun : s.status = .running)
    (n : Nat) (p : Bytes) : QInv q (s.accept n p) room := by
  have hrec : (s.accept n p).received.flatten = s.received.flatten ++ p := by
    rw [RState.received_accept, List.flatten_append, List.flatten_singleton]
  refine ⟨fun _ => ?_, hrec ▸ h.pre.trans (List.prefix_append _ _), h.room_some, h.some_stays, fun hk => nomatch hrun.symm.trans hk⟩
  rw [hrec, ← h.stored (by rw [hrun]; decide)]
  simp [RState.accept]

theorem QInv.flush (c : RCfg) {q : Option Nat} {s : RState} {room : Option Nat} (h : QInv q s room) (hrun : s.status = .running) :
    QInv q (flushAckQ c s room).1 (flushAckQ c s room).2.1 ∧
    ((flushAckQ c s room).1.status = .failed ∧ (flushAckQ c s room).2.2 = [] ∨
     (flushAckQ c s room).1.status = .running ∧ (flushAckQ c s room).1.win.elems = [] ∧
       ∀ a ∈ (flushAckQ c s room).2.2, a.file = (flushAckQ c s room).1.win.file) := by
  obtain ⟨hroom, hpre, hall⟩ := writeQ_spec s.win.elems s.win.file room
  rw [h.room_eq] at hroom
  rw [h.stored (by rw [hrun]; decide)] at hpre hall
  rcases hw : writeQ s.win.file room s.win.elems with ⟨f', room', ok⟩
  rw [hw] at hroom hpre hall
  rw [flushAckQ, hw]
  cases ok with
  | true =>
    exact ⟨.of_room_eq (fun _ => (List.append_nil _).trans (hall rfl)) hpre hroom fun _ => rfl,
      .inr ⟨hrun, rfl, fun a ha => List.eq_of_mem_replicate ha ▸ rfl⟩⟩
  | false => exact ⟨.of_room_eq (fun hne => absurd rfl hne) hpre hroom nofun, .inl ⟨rfl, rfl⟩⟩

theorem markOkQ_running {r : RState × Option Nat × List AckObs} (h : r.1.status = .running) :
    markOkQ r = ({ r.1 with status := .ok }, r.2) := by
  rw [markOkQ, if_pos h]

theorem markOkQ_failed {r : RState × Option Nat × List AckObs} (h : r.1.status = .failed) : markOkQ r = r := by
  rw [markOkQ, if_neg (by rw [h]; decide)]

theorem RAct.runQ_good (c : RCfg) {q room : Option Nat} {a : RAct} (h : QInv q a.state room) (hrun : a.state.status = .running) :
    QInv q (a.runQ c room).1 (a.runQ c room).2.1 ∧
    ∀ x ∈ (a.runQ c room).2.2, x.file = (a.runQ c room).1.win.file ∧ x.file.content = (a.runQ c room).1.received.flatten := by
  cases a with
  | stay t => exact ⟨h, fun _ hx => absurd hx List.not_mem_nil⟩
  | flush t =>
    obtain ⟨hq, ⟨-, hnil⟩ | ⟨hr, he, hf⟩⟩ := QInv.flush c (s := t) h hrun
    · exact ⟨hq, by rw [RAct.runQ, hnil]; exact fun _ hx => absurd hx List.not_mem_nil⟩
    · exact ⟨hq, fun x hx => ⟨hf x hx, hf x hx ▸ hq.stored_of_empty (by rw [hr]; decide) he⟩⟩
  | finish t =>
    obtain ⟨hq, ⟨hst, hnil⟩ | ⟨hr, he, hf⟩⟩ := QInv.flush c (s := t) h hrun
    · rw [RAct.runQ, markOkQ_failed hst]
      exact ⟨hq, by rw [hnil]; exact fun _ hx => absurd hx List.not_mem_nil⟩
    · rw [RAct.runQ, markOkQ_running hr]
      have hok := hq.congr (t := { (flushAckQ c t room).1 with status := .ok }) rfl rfl (.inr (.inr ⟨rfl, hr, he⟩))
      exact ⟨hok, fun x hx => ⟨hf x hx, hf x hx ▸ hok.ok_stored rfl⟩⟩

theorem rStepQ_good (c : RCfg) {q : Option Nat} {s : RState} {room : Option Nat} (h : QInv q s room) (ev : REv) :
    QInv q (rStepQ c s room ev).1 (rStepQ c s room ev).2.1 ∧
    ∀ a ∈ (rStepQ c s room ev).2.2, a.file = (rStepQ c s room ev).1.win.file ∧
      a.file.content = (rStepQ c s room ev).1.received.flatten := by
  rw [rStepQ_eq]
  obtain ⟨t, ht, -, hwin, hacc, hst⟩ | ⟨hrun, ht | ⟨n, p, -, -, ht⟩⟩ := rDecide_cases c.b s ev
  · rw [ht]; exact ⟨h.congr hwin hacc (hst.imp_right .inl), fun _ hx => absurd hx List.not_mem_nil⟩
  · rw [ht]; exact RAct.runQ_good c (a := .flush s) h hrun
  · exact RAct.runQ_good c (ht ▸ h.accept hrun n p) (by rw [ht]; exact hrun)

theorem rRunFromQ_good (c : RCfg) {q : Option Nat} (evs : List REv) {s : RState} {room : Option Nat} (h : QInv q s room) :
    QInv q (rRunFromQ c s room evs).2.1 (rRunFromQ c s room evs).2.2 ∧
    ∀ g ∈ (rRunFromQ c s room evs).1, ∀ a ∈ g, ∀ q0, q = some q0 → a.file.content.length ≤ q0 := by
  induction evs generalizing s room with
  | nil => exact ⟨h, fun _ hg => absurd hg List.not_mem_nil⟩
  | cons e es ih =>
    obtain ⟨hq, hacks⟩ := rStepQ_good c h e
    obtain ⟨i1, i2⟩ := ih hq
    refine ⟨i1, fun g hg a ha q0 hq0 => ?_⟩
    rcases List.mem_cons.mp hg with rfl | hg
    · exact (hacks a ha).1 ▸ hq.le_room hq0
    · exact i2 g hg a ha q0 hq0

/-! ### no room at all: the target that cannot be written -/

/-- with no room the write loop fails at the first byte there is to write, and leaves the file alone -/
theorem writeQ_zero (es : List Bytes) (f : FileSt) :
    writeQ f (some 0) es =
      if es.any fun d => !d.isEmpty then (f, some 0, false) else (es.foldl FileSt.write f, some 0, true) := by
  induction es generalizing f with
  | nil => rfl
  | cons d ds ih =>
    cases d with
    | nil => exact ih _
    | cons x xs => rfl

/-- the flush on a handle that cannot be written is the flush with no room -/
theorem flushAckQ_zero (c : RCfg) {s : RState} (hcw : s.win.file.canWrite = false) :
    flushAckQ c s (some 0) = ((flushAck c s).1, some 0, (flushAck c s).2) := by
  rw [flushAckQ, writeQ_zero, flushAck, Window.empty, hcw]
  cases s.win.elems.any fun d => !d.isEmpty <;> rfl

theorem rStepQ_zero (c : RCfg) {s : RState} (hcw : s.win.file.canWrite = false) (ev : REv) :
    rStepQ c s (some 0) ev = ((rStep c s ev).1, some 0, (rStep c s ev).2) :=
  rStepQ_eq_rStep c s (some 0) ev fun _ ht => flushAckQ_zero c (ht ▸ hcw)

theorem rRunFromQ_zero (c : RCfg) (evs : List REv) {s : RState} (hcw : s.win.file.canWrite = false) :
    rRunFromQ c s (some 0) evs = ((rRunFrom c s evs).1, (rRunFrom c s evs).2, some 0) := by
  induction evs generalizing s with
  | nil => rfl
  | cons e es ih =>
    rw [rRunFromQ, rStepQ_zero c hcw e]
    exact congrArg (fun r => ((rStep c s e).2 :: r.1, r.2)) (ih ((rStep_canWrite c s e).trans hcw))

end Tftp
