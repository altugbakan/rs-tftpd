import Tftp.Model.Net
import Tftp.Lemmas.Sender
import Tftp.Lemmas.Receiver
/-!
The closed-loop simulator (`Model/Net.lean`) piece by piece: what the fault schedule does to a datagram, how to
reason about `netRun` (an invariant is kept; an invariant with a decreasing measure reaches its exit; runs compose),
what one scheduling step is in each of its cases, and what an emission looks like behind the fault schedule.
-/
namespace Tftp

/-! ### the fault schedule -/

/-- how many copies of the datagram with ordinal `n` arrive -/
def copies (drop dup : List Nat) (n : Nat) : Nat := if drop.contains n then 0 else if dup.contains n then 2 else 1

theorem applyFaults_cons {α : Type} (drop dup : List Nat) (n : Nat) (x : α) (xs : List α) :
    applyFaults drop dup n (x :: xs) = List.replicate (copies drop dup n) x ++ applyFaults drop dup (n + 1) xs := by
  rw [applyFaults, copies]
  split
  · rfl
  · split <;> rfl

theorem copies_le (drop dup : List Nat) (n : Nat) : copies drop dup n ≤ 2 := by
  unfold copies
  split
  · omega
  · split <;> omega

theorem copies_eq_zero {drop dup : List Nat} {n : Nat} (h : copies drop dup n = 0) : drop.contains n = true := by
  unfold copies at h
  split at h
  · assumption
  · split at h <;> cases h

theorem applyFaults_single {α : Type} (drop dup : List Nat) (n : Nat) (x : α) :
    applyFaults drop dup n [x] = List.replicate (copies drop dup n) x := by
  rw [applyFaults_cons, applyFaults, List.append_nil]

theorem applyFaults_none {α : Type} (n : Nat) (xs : List α) : applyFaults [] [] n xs = xs := by
  induction xs generalizing n with
  | nil => rfl
  | cons x xs ih => rw [applyFaults_cons, ih]; rfl

theorem mem_applyFaults {α : Type} (drop dup : List Nat) (n : Nat) (xs : List α) (x : α)
    (h : x ∈ applyFaults drop dup n xs) : x ∈ xs := by
  induction xs generalizing n with
  | nil => exact h
  | cons y ys ih =>
    rw [applyFaults_cons, List.mem_append] at h
    exact h.elim (fun h => List.eq_of_mem_replicate h ▸ List.mem_cons_self) fun h => List.mem_cons_of_mem _ (ih _ h)

theorem applyFaults_map {α β : Type} (g : α → β) (drop dup : List Nat) (n : Nat) (xs : List α) :
    applyFaults drop dup n (xs.map g) = (applyFaults drop dup n xs).map g := by
  induction xs generalizing n with
  | nil => rfl
  | cons x xs ih => rw [List.map_cons, applyFaults_cons, applyFaults_cons, ih, List.map_append, List.map_replicate]

theorem applyFaults_length_le {α : Type} (drop dup : List Nat) (n : Nat) (xs : List α) :
    (applyFaults drop dup n xs).length ≤ 2 * xs.length := by
  induction xs generalizing n with
  | nil => exact Nat.le_refl _
  | cons x xs ih =>
    have := ih (n + 1)
    have := copies_le drop dup n
    rw [applyFaults_cons, List.length_append, List.length_replicate, List.length_cons]
    omega

/-! ### reasoning about `netRun` -/

theorem netRun_inv {sc : SCfg} {rc : RCfg} {fl : Faults} {I : NetState → Prop}
    (step : ∀ st st', I st → netStep sc rc fl st = some st' → I st') (fuel : Nat) (st : NetState) (h : I st) :
    I (netRun sc rc fl fuel st) := by
  induction fuel generalizing st with
  | zero => exact h
  | succ n ih =>
    rw [netRun]
    cases hs : netStep sc rc fl st with
    | none => exact h
    | some st' => exact ih st' (step st st' h hs)

/-- from states satisfying `P` every step leads to the exit `Q` or stays in `P` with a smaller measure: the run
reaches `Q` -/
theorem netRun_reaches {sc : SCfg} {rc : RCfg} {fl : Faults} {P Q : NetState → Prop} (μ : NetState → Nat)
    (step : ∀ st, P st → ∃ st', netStep sc rc fl st = some st' ∧ (Q st' ∨ (P st' ∧ μ st' < μ st)))
    (st : NetState) (h : P st) : ∃ fuel, Q (netRun sc rc fl fuel st) := by
  generalize hm : μ st = m
  induction m using Nat.strongRecOn generalizing st with
  | _ m ih =>
    obtain ⟨st', hs, hq | ⟨hp, hlt⟩⟩ := step st h
    · exact ⟨1, by rw [netRun, hs]; exact hq⟩
    · obtain ⟨fuel, hd⟩ := ih _ (hm ▸ hlt) st' hp rfl
      exact ⟨fuel + 1, by rw [netRun, hs]; exact hd⟩

theorem netRun_trans {sc : SCfg} {rc : RCfg} {fl : Faults} {Q R : NetState → Prop} {st : NetState}
    (h1 : ∃ fuel, Q (netRun sc rc fl fuel st)) (h2 : ∀ st, Q st → ∃ fuel, R (netRun sc rc fl fuel st)) :
    ∃ fuel, R (netRun sc rc fl fuel st) := by
  obtain ⟨a, ha⟩ := h1
  obtain ⟨b, hb⟩ := h2 _ ha
  refine ⟨a + b, ?_⟩
  clear ha
  induction a generalizing st with
  | zero => rwa [Nat.zero_add]
  | succ a ih =>
    rw [Nat.add_right_comm, netRun]
    rw [netRun] at hb
    cases hs : netStep sc rc fl st with
    | none =>
      -- the run was over already
      rw [hs] at hb
      cases b with
      | zero => exact hb
      | succ b => rwa [netRun, hs] at hb
    | some st' => rw [hs] at hb; exact ih hb

/-! ### one scheduling step, case by case -/

theorem receiverRunning_iff (r : RState) : receiverRunning r = true ↔ r.status = .running := by
  simp [receiverRunning]

theorem receiverRunning_of_not_running {r : RState} (h : r.status ≠ .running) : receiverRunning r = false :=
  Bool.eq_false_iff.mpr (mt (receiverRunning_iff r).mp h)

theorem senderRunning_of_running {s : SState} (h : s.status = .running) : senderRunning s = true := by
  simp [senderRunning, h]

theorem senderRunning_of_ended {s : SState} (h : s.status = .ok ∨ s.status = .failed) : senderRunning s = false := by
  rcases h with h | h <;> simp [senderRunning, h]

theorem netStep_data_eq (sc : SCfg) (rc : RCfg) (fl : Faults) {st : NetState} {n : Nat} {d : Bytes} {rest : List (Nat × Bytes)}
    (hdq : st.dq = (n, d) :: rest) :
    netStep sc rc fl st = some (
      if receiverRunning st.r = true then
        emitAcks fl { st with dq := rest, r := (rStep rc st.r (.data n d)).1 } (rStep rc st.r (.data n d)).2
      else { st with dq := rest }) := by
  simp only [netStep, hdq]
  split <;> rfl

theorem netStep_ack_eq (sc : SCfg) (rc : RCfg) (fl : Faults) {st : NetState} {a : Nat} {rest : List Nat}
    (hdq : st.dq = []) (haq : st.aq = a :: rest) :
    netStep sc rc fl st = some (
      if senderRunning st.s = true then
        emitData fl { st with dq := [], aq := rest, s := (sStep sc st.s (.ack a) 0).1 } (sStep sc st.s (.ack a) 0).2
      else { st with dq := [], aq := rest }) := by
  simp only [netStep, hdq, haq]
  split <;> simp

theorem netStep_quiet_eq (sc : SCfg) (rc : RCfg) (fl : Faults) {st : NetState} (hdq : st.dq = []) (haq : st.aq = []) :
    netStep sc rc fl st =
      if (!senderRunning st.s && !receiverRunning st.r) = true then none
      else some (
        if senderRunning st.s = true then
          emitData fl { st with dq := [], aq := [], timeouts := st.timeouts + 1, s := (sStep sc st.s .fail sc.timeout).1,
                                r := if receiverRunning st.r = true then (rStep rc st.r .fail).1 else st.r }
            (sStep sc st.s .fail sc.timeout).2
        else { st with dq := [], aq := [], timeouts := st.timeouts + 1,
                       r := if receiverRunning st.r = true then (rStep rc st.r .fail).1 else st.r }) := by
  simp only [netStep, hdq, haq]
  split
  · rfl
  · split <;> split <;> simp

theorem netStep_data (sc : SCfg) (rc : RCfg) (fl : Faults) {st : NetState} {n : Nat} {d : Bytes} {rest : List (Nat × Bytes)}
    (hdq : st.dq = (n, d) :: rest) (hrun : st.r.status = .running) :
    netStep sc rc fl st =
      some (emitAcks fl { st with dq := rest, r := (rStep rc st.r (.data n d)).1 } (rStep rc st.r (.data n d)).2) := by
  rw [netStep_data_eq sc rc fl hdq, if_pos ((receiverRunning_iff _).mpr hrun)]

theorem netStep_data_late (sc : SCfg) (rc : RCfg) (fl : Faults) {st : NetState} {x : Nat × Bytes} {rest : List (Nat × Bytes)}
    (hdq : st.dq = x :: rest) (hrun : st.r.status ≠ .running) : netStep sc rc fl st = some { st with dq := rest } := by
  rw [netStep_data_eq sc rc fl (n := x.1) (d := x.2) hdq, receiverRunning_of_not_running hrun]
  rfl

theorem netStep_ack (sc : SCfg) (rc : RCfg) (fl : Faults) {st : NetState} {a : Nat} {rest : List Nat}
    (hdq : st.dq = []) (haq : st.aq = a :: rest) (hrun : st.s.status = .running) :
    netStep sc rc fl st =
      some (emitData fl { st with dq := [], aq := rest, s := (sStep sc st.s (.ack a) 0).1 } (sStep sc st.s (.ack a) 0).2) := by
  rw [netStep_ack_eq sc rc fl hdq haq, if_pos (senderRunning_of_running hrun)]

theorem netStep_quiet (sc : SCfg) (rc : RCfg) (fl : Faults) {st : NetState} (hdq : st.dq = []) (haq : st.aq = [])
    (hs : st.s.status = .running) (hr : st.r.status = .running) :
    netStep sc rc fl st =
      some (emitData fl { st with dq := [], aq := [], timeouts := st.timeouts + 1, s := (sStep sc st.s .fail sc.timeout).1,
                                  r := (rStep rc st.r .fail).1 } (sStep sc st.s .fail sc.timeout).2) := by
  simp [netStep_quiet_eq sc rc fl hdq haq, senderRunning_of_running hs, (receiverRunning_iff _).mpr hr]

theorem netStep_quiet_sender (sc : SCfg) (rc : RCfg) (fl : Faults) {st : NetState} (hdq : st.dq = []) (haq : st.aq = [])
    (hs : st.s.status = .running) (hr : st.r.status ≠ .running) :
    netStep sc rc fl st =
      some (emitData fl { st with dq := [], aq := [], timeouts := st.timeouts + 1, s := (sStep sc st.s .fail sc.timeout).1 }
        (sStep sc st.s .fail sc.timeout).2) := by
  simp [netStep_quiet_eq sc rc fl hdq haq, senderRunning_of_running hs, receiverRunning_of_not_running hr]

theorem netStep_quiet_receiver (sc : SCfg) (rc : RCfg) (fl : Faults) {st : NetState} (hdq : st.dq = []) (haq : st.aq = [])
    (hs : st.s.status = .ok ∨ st.s.status = .failed) (hr : st.r.status = .running) :
    netStep sc rc fl st = some { st with dq := [], aq := [], timeouts := st.timeouts + 1, r := (rStep rc st.r .fail).1 } := by
  simp [netStep_quiet_eq sc rc fl hdq haq, senderRunning_of_ended hs, (receiverRunning_iff _).mpr hr]

theorem netStep_ended (sc : SCfg) (rc : RCfg) (fl : Faults) {st st' : NetState} (hs : st.s.status = .ok ∨ st.s.status = .failed)
    (hr : st.r.status ≠ .running) (h : netStep sc rc fl st = some st') : st'.s = st.s ∧ st'.r = st.r ∧ st'.na = st.na := by
  have hsr := senderRunning_of_ended hs
  have hrr := receiverRunning_of_not_running hr
  cases hdq : st.dq with
  | cons x rest =>
    rw [netStep_data_late sc rc fl hdq hr] at h
    cases h; exact ⟨rfl, rfl, rfl⟩
  | nil =>
    cases haq : st.aq with
    | cons a rest =>
      rw [netStep_ack_eq sc rc fl hdq haq, hsr] at h
      cases h; exact ⟨rfl, rfl, rfl⟩
    | nil => simp [netStep_quiet_eq sc rc fl hdq haq, hsr, hrr] at h

/-! ### what is emitted passes the fault schedule -/

theorem emitData_nil (fl : Faults) (st : NetState) : emitData fl st [] = st := by
  simp [emitData, dataOf, applyFaults]

theorem emitAcks_nil (fl : Faults) (st : NetState) : emitAcks fl st [] = st := by
  simp [emitAcks, applyFaults]

theorem ackOut_one (n : Nat) (fl : FileSt) : (ackOut 1 n fl).map (·.n) = [n] := rfl

theorem emitAcks_one (fl : Faults) (st : NetState) (n : Nat) (file : FileSt) :
    emitAcks fl st (ackOut 1 n file) =
      { st with aq := st.aq ++ List.replicate (copies fl.dropAck fl.dupAck st.na) n, na := st.na + 1 } := by
  simp [emitAcks, ackOut_one, applyFaults_single]

/-- DATA datagram number `k` of the transfer as it sits in the queue -/
def datum (b : Nat) (f : Bytes) (k : Nat) : Nat × Bytes := (k % 65536, blk b f k)

theorem dataOf_sendWindow (b : Nat) (f : Bytes) (B m : Nat) :
    dataOf (sendWindow 1 (B % 65536) ((List.range' B m).map (blk b f))) = (List.range' B m).map (datum b f) := by
  induction m generalizing B with
  | zero => rfl
  | succ m ih =>
    have hm : (B % 65536 + 1) % 65536 = (B + 1) % 65536 := by omega
    simp [List.range'_succ, sendWindow, sendPacket, dataOf, datum, hm, ih (B + 1)]

theorem emitData_window {sc : SCfg} {f : Bytes} {s : SState} (h : SInv sc f s) (hrep : sc.rep = 1) {B m : Nat}
    (hB : s.base = B) (hm : s.win.elems.length = m) (fl : Faults) (st : NetState) :
    emitData fl st (sendWindow sc.rep s.bn s.win.elems) =
      { st with dq := st.dq ++ (applyFaults fl.dropData fl.dupData st.nd (List.range' B m)).map (datum sc.b f),
                nd := st.nd + m } := by
  rw [emitData, hrep, h.bn_eq, h.elems_blk, dataOf_sendWindow, applyFaults_map, hB, hm]
  simp

end Tftp
