import Tftp.Lemmas.Net
/-!
What is in flight in the closed loop, by block number, and the bookkeeping of the loss-tolerance argument: the *token*
(an acknowledgement inside the sender's window is in flight or will be produced by the DATA in flight) and the *debt*
(every quiescent time-out is paid for by a counted loss, and one more loss has been counted whenever the token is
missing). Nothing here mentions `netStep`.
-/
namespace Tftp

/-! ### bursts -/

/-- `[a, a+1, …, a+n-1]` with every element delivered once or twice: what a burst looks like after a fault schedule
that loses none of it (a duplicate follows its original at once, the queues being FIFO) -/
inductive Chain : Nat → Nat → List Nat → Prop where
  | nil (a : Nat) : Chain a 0 []
  | one (a n : Nat) (rest : List Nat) : Chain (a + 1) n rest → Chain a (n + 1) (a :: rest)
  | two (a n : Nat) (rest : List Nat) : Chain (a + 1) n rest → Chain a (n + 1) (a :: a :: rest)

theorem burst_cases (drop dup : List Nat) (n a m : Nat) :
    (∃ i, i < m ∧ drop.contains (n + i) = true) ∨ Chain a m (applyFaults drop dup n (List.range' a m)) := by
  induction m generalizing n a with
  | zero => exact Or.inr (Chain.nil a)
  | succ m ih =>
    rw [List.range'_succ, applyFaults]
    by_cases h1 : drop.contains n = true
    · exact Or.inl ⟨0, Nat.succ_pos _, h1⟩
    · rcases ih (n + 1) (a + 1) with ⟨i, hi, hd⟩ | hc
      · exact Or.inl ⟨i + 1, Nat.succ_lt_succ hi, by rwa [Nat.add_comm i, ← Nat.add_assoc]⟩
      · rw [if_neg h1]
        by_cases h2 : dup.contains n = true
        · rw [if_pos h2]; exact Or.inr (Chain.two a m _ hc)
        · rw [if_neg h2]; exact Or.inr (Chain.one a m _ hc)

/-! ### counting losses -/

/-- how many of the scheduled losses `l` have ordinals below `n`, i.e. have happened once `n` datagrams are out -/
def lostBelow (l : List Nat) (n : Nat) : Nat := l.countP (· < n)

theorem lostBelow_le (l : List Nat) (n : Nat) : lostBelow l n ≤ l.length := List.countP_le_length

theorem lostBelow_mono (l : List Nat) {n m : Nat} (h : n ≤ m) : lostBelow l n ≤ lostBelow l m :=
  List.countP_mono_left fun x _ hx => by simp only [decide_eq_true_eq] at hx ⊢; omega

theorem lostBelow_lt (l : List Nat) {n m k : Nat} (hk : l.contains k = true) (hn : n ≤ k) (hm : k < m) :
    lostBelow l n < lostBelow l m := by
  induction l with
  | nil => cases hk
  | cons a l ih =>
    have hmono := lostBelow_mono l (Nat.le_of_lt (Nat.lt_of_le_of_lt hn hm))
    unfold lostBelow at *
    simp only [List.countP_cons, decide_eq_true_eq]
    by_cases ha : k = a
    · subst ha
      rw [if_neg (by omega), if_pos hm]
      omega
    · have := ih (by simpa [ha] using hk)
      split <;> split <;> omega

def dropsSoFar (fl : Faults) (nd na : Nat) : Nat := lostBelow fl.dropData nd + lostBelow fl.dropAck na

def dropsTotal (fl : Faults) : Nat := fl.dropData.length + fl.dropAck.length

theorem dropsSoFar_le_total (fl : Faults) (nd na : Nat) : dropsSoFar fl nd na ≤ dropsTotal fl :=
  Nat.add_le_add (lostBelow_le _ _) (lostBelow_le _ _)

/-! ### the token -/

/-- the receiver, abstractly, over the numbers of the DATA datagrams still to be delivered: does an
acknowledgement for a block at or after the sender's base `B` get emitted? (`R` blocks accepted, `p` of
them not yet flushed/acknowledged; `bN` is the number of the final block) -/
def willAck (B w bN : Nat) : Nat → Nat → List Nat → Bool
  | _, _, [] => false
  | R, p, k :: ds =>
    if k = R + 1 then (if k = bN ∨ p + 1 = w then true else willAck B w bN (R + 1) (p + 1) ds)
    else if k = R ∧ 0 < p then willAck B w bN R p ds
    else if B ≤ R then true else willAck B w bN R 0 ds

/-- accepting a loss-free run of `n` consecutive blocks that fills the receiver's window, or ends with the final block,
ends in an acknowledgement -/
theorem willAck_chain (B w bN : Nat) : ∀ (n R p : Nat) (ds : List Nat), Chain (R + 1) n ds → 1 ≤ n →
    (p + n = w ∨ (R + n = bN ∧ p + n ≤ w)) → willAck B w bN R p ds = true := by
  intro n
  induction n with
  | zero => intro R p ds _ h1; omega
  | succ n ih =>
    intro R p ds hc _ hfin
    -- unless the first block is acknowledged at once, the rest of the run is such a run
    have hcont : ∀ rest, Chain (R + 1 + 1) n rest → ¬ (R + 1 = bN ∨ p + 1 = w) → willAck B w bN (R + 1) (p + 1) rest = true := by
      intro rest hr hnot
      have hn1 : 1 ≤ n := Nat.pos_of_ne_zero fun h0 => hnot (by omega)
      exact ih (R + 1) (p + 1) rest hr hn1 (by omega)
    cases hc with
    | one _ _ rest hr =>
      rw [willAck, if_pos rfl]
      by_cases hq : R + 1 = bN ∨ p + 1 = w
      · rw [if_pos hq]
      · rw [if_neg hq]; exact hcont rest hr hq
    | two _ _ rest hr =>
      rw [willAck, if_pos rfl]
      by_cases hq : R + 1 = bN ∨ p + 1 = w
      · rw [if_pos hq]
      · -- the duplicate of the block just buffered is ignored
        rw [if_neg hq, willAck, if_neg (by omega), if_pos ⟨rfl, Nat.succ_pos _⟩]
        exact hcont rest hr hq

/-- **a loss-free burst of the sender's whole window always produces an acknowledgement inside the window** -/
theorem willAck_burst (B w bN m R p : Nat) (ds : List Nat) (hc : Chain B m ds) (hm : 1 ≤ m)
    (hfresh : m = w ∨ (B + m - 1 = bN ∧ m ≤ w)) (hple : p ≤ R) (hahead : B ≤ R - p + 1) (hrtop : R ≤ B + m - 1)
    (hrlt : R < bN) (hpw : p < w) : willAck B w bN R p ds = true := by
  by_cases hRB : B ≤ R
  · -- part of the window has been received already: its first block is out of sequence
    have h1 : ¬ B = R + 1 := by omega
    by_cases h2 : B = R ∧ 0 < p
    · -- `B = R` is the block just buffered (`p = 1`): it is ignored, the rest is a run from `R + 1`
      obtain ⟨rfl, hp⟩ := h2
      have hrest : ∀ n rest, Chain (B + 1) n rest → m = n + 1 → willAck B w bN B p rest = true := fun n rest hr hmn =>
        willAck_chain B w bN n B p rest hr (by omega) (by omega)
      cases hc with
      | nil => omega
      | one _ n rest hr => rw [willAck, if_neg h1, if_pos ⟨rfl, hp⟩]; exact hrest n rest hr rfl
      | two _ n rest hr =>
        rw [willAck, if_neg h1, if_pos ⟨rfl, hp⟩, willAck, if_neg h1, if_pos ⟨rfl, hp⟩]; exact hrest n rest hr rfl
    · -- anything else out of sequence makes the receiver repeat its last acknowledgement, which is inside the window
      cases hc with
      | nil => omega
      | one _ n rest hr | two _ n rest hr => rw [willAck, if_neg h1, if_neg h2, if_pos hRB]
  · -- nothing of the window has been received: the burst is a run from `R + 1 = B`
    obtain rfl : B = R + 1 := by omega
    exact willAck_chain (R + 1) w bN m R p ds hc hm (by omega)

/-- an acknowledgement inside the sender's window `[B, …)` is in flight, or will be emitted by the receiver
(`R` blocks accepted, `p` of them buffered) over the DATA in flight -/
def token (B w bN R p : Nat) (ds ks : List Nat) : Bool := ks.any (B ≤ ·) || willAck B w bN R p ds

theorem token_append (B w bN R p : Nat) (ds ks : List Nat) (c x : Nat) :
    token B w bN R p ds (ks ++ List.replicate c x) = (token B w bN R p ds ks || (decide (0 < c) && decide (B ≤ x))) := by
  cases c with
  | zero => simp [token]
  | succ c => cases h : decide (B ≤ x) <;> simp [token, List.any_replicate, h]

/-- the token over the DATA in flight, one delivery at a time: block `R + 1` is buffered without an acknowledgement, … -/
theorem token_buffer {B w bN R p : Nat} (ds ks : List Nat) (hN : R + 1 ≠ bN) (hp : p + 1 ≠ w) :
    token B w bN R p ((R + 1) :: ds) ks = token B w bN (R + 1) (p + 1) ds ks := by
  rw [token, willAck, if_pos rfl, if_neg (by omega)]; rfl

/-- … a duplicate of the block just buffered is ignored, … -/
theorem token_dup {B w bN R p : Nat} (ds ks : List Nat) (hp : 0 < p) :
    token B w bN R p (R :: ds) ks = token B w bN R p ds ks := by
  rw [token, willAck, if_neg (by omega), if_pos ⟨rfl, hp⟩]; rfl

/-- … any other block, while the receiver is still before the window, makes it flush (and repeat an old acknowledgement) -/
theorem token_skip {B w bN R p k : Nat} (ds ks : List Nat) (hk1 : k ≠ R + 1) (hk2 : ¬ (k = R ∧ 0 < p)) (hB : ¬ B ≤ R) :
    token B w bN R p (k :: ds) ks = token B w bN R 0 ds ks := by
  rw [token, willAck, if_neg hk1, if_neg hk2, if_neg hB]; rfl

/-! ### where the receiver stands -/

/-- where the receiver (`R` blocks accepted, the last `p` of them not yet acknowledged) stands relative to the sender's
window `[B, B+m)` in a transfer of `N` blocks -/
structure InWindow (B m R p N : Nat) : Prop where
  ple : p ≤ R
  /-- everything before the window has been acknowledged -/
  ahead : B + p ≤ R + 1
  /-- nothing beyond the window has been accepted -/
  rtop : R + 1 ≤ B + m
  /-- the final block has not been accepted -/
  rltN : R < N

/-- the next block is accepted; `p' = p + 1` if it is buffered, `p' = 0` if everything buffered is acknowledged with it -/
theorem InWindow.accept {B m R p p' N : Nat} (h : InWindow B m R p N) (hp : p' ≤ p + 1) (hk : R + 1 < B + m) (hN : R + 1 < N) :
    InWindow B m (R + 1) p' N :=
  ⟨by have := h.ple; omega, by have := h.ahead; omega, hk, hN⟩

theorem InWindow.reack {B m R p N : Nat} (h : InWindow B m R p N) : InWindow B m R 0 N :=
  ⟨Nat.zero_le _, by have := h.ahead; omega, h.rtop, h.rltN⟩

/-- the sender moves on to the window `[k+1, k+1+m')` after an acknowledgement for block `k` -/
theorem InWindow.slide {B m R p N k m' : Nat} (h : InWindow B m R p N) (hk : k + p ≤ R) (hgrow : B + m ≤ k + 1 + m') :
    InWindow (k + 1) m' R p N :=
  ⟨h.ple, by omega, by have := h.rtop; omega, h.rltN⟩

/-! ### the debt -/

/-- after `tmo` quiescent time-outs, with `nd` DATA and `na` ACK datagrams sent: every time-out so far is paid for by a
counted loss; and unless the token `tok` is there, one more loss has been counted than time-outs have happened -/
structure Paid (fl : Faults) (tmo nd na : Nat) (tok : Bool) : Prop where
  le : tmo ≤ dropsSoFar fl nd na
  lt : tok = false → tmo < dropsSoFar fl nd na

theorem Paid.mono {fl : Faults} {tmo nd na nd' na' : Nat} {tok tok' : Bool} (h : Paid fl tmo nd na tok)
    (hnd : nd ≤ nd') (hna : na ≤ na') (htok : tok = true → tok' = true) : Paid fl tmo nd' na' tok' := by
  have hmono : dropsSoFar fl nd na ≤ dropsSoFar fl nd' na' :=
    Nat.add_le_add (lostBelow_mono fl.dropData hnd) (lostBelow_mono fl.dropAck hna)
  refine ⟨Nat.le_trans h.le hmono, fun hf => Nat.lt_of_lt_of_le (h.lt ?_) hmono⟩
  -- no token now: there was none before
  exact Bool.eq_false_iff.mpr fun ht => Bool.eq_false_iff.mp hf (htok ht)

/-- the copies of an acknowledgement for a block inside the window arrive: one of them is the token, or the loss is counted -/
theorem Paid.ack {fl : Faults} {tmo nd na : Nat} {tok : Bool} (h : Paid fl tmo nd na tok) {B w bN R p x : Nat}
    (ds ks : List Nat) (hx : B ≤ x) :
    Paid fl tmo nd (na + 1) (token B w bN R p ds (ks ++ List.replicate (copies fl.dropAck fl.dupAck na) x)) := by
  by_cases hc : copies fl.dropAck fl.dupAck na = 0
  · have := lostBelow_lt fl.dropAck (copies_eq_zero hc) (Nat.le_refl _) (Nat.lt_add_one _)
    have := h.le
    refine ⟨?_, fun _ => ?_⟩ <;> unfold dropsSoFar at * <;> omega
  · exact Paid.mono (tok := true) ⟨h.le, fun h => nomatch h⟩ (Nat.le_refl _) (Nat.le_succ _) fun _ => by
      rw [token_append]; simp [Nat.pos_of_ne_zero hc, hx]

/-- the token after a burst of the sender's whole window `[B, B+m)` (full, or ending with the final block): either a
datagram of the burst is lost (and counted), or an acknowledgement inside the window is on its way -/
theorem Paid.burst {fl : Faults} {tmo nd na : Nat} (hold : tmo ≤ dropsSoFar fl nd na) {B w bN m R p : Nat}
    (ks : List Nat) (hm : 1 ≤ m) (hmw : m ≤ w) (hfull : m = w ∨ B + m = bN + 1) (hin : InWindow B m R p bN) (hpw : p < w) :
    Paid fl tmo (nd + m) na (token B w bN R p (applyFaults fl.dropData fl.dupData nd (List.range' B m)) ks) := by
  obtain ⟨hple, hahead, hrtop, hrlt⟩ := hin
  rcases burst_cases fl.dropData fl.dupData nd B m with ⟨i, hi, hd⟩ | hc
  · have := lostBelow_lt fl.dropData hd (Nat.le_add_right _ i) (Nat.add_lt_add_left hi _)
    refine ⟨?_, fun _ => ?_⟩ <;> unfold dropsSoFar at * <;> omega
  · have := lostBelow_mono fl.dropData (Nat.le_add_right nd m)
    rw [token, willAck_burst B w bN m R p _ hc hm (by omega) hple (by omega) (by omega) hrlt hpw]
    exact ⟨by unfold dropsSoFar at *; omega, by simp⟩

/-! ### the queues -/

/-- the DATA queue holds (copies of) blocks `ds`, all of them in the sender's window `[B, B+m)` -/
structure DataQ (b : Nat) (f : Bytes) (dq : List (Nat × Bytes)) (ds : List Nat) (B m : Nat) : Prop where
  eq : dq = ds.map (datum b f)
  mem : ∀ k ∈ ds, B ≤ k ∧ k < B + m

theorem DataQ.tail {b : Nat} {f : Bytes} {dq : List (Nat × Bytes)} {k : Nat} {ds : List Nat} {B m : Nat}
    (h : DataQ b f dq (k :: ds) B m) : DataQ b f (ds.map (datum b f)) ds B m :=
  ⟨rfl, fun x hx => h.mem x (List.mem_cons_of_mem _ hx)⟩

theorem DataQ.burst (b : Nat) (f : Bytes) (drop dup : List Nat) (n B m : Nat) :
    DataQ b f ((applyFaults drop dup n (List.range' B m)).map (datum b f)) (applyFaults drop dup n (List.range' B m)) B m :=
  ⟨rfl, fun k hk => by simpa using List.mem_range'_1.mp (mem_applyFaults _ _ _ _ k hk)⟩

/-- the ACK queue holds acknowledgements for blocks `ks`, in ascending order, none older than the one before the
sender's base `B`, none beyond block `hi` -/
structure AckQ (aq ks : List Nat) (B hi : Nat) : Prop where
  eq : aq = ks.map (· % 65536)
  sorted : ks.Pairwise (· ≤ ·)
  mem : ∀ k ∈ ks, B ≤ k + 1 ∧ k ≤ hi

theorem AckQ.nil (B hi : Nat) : AckQ [] [] B hi := ⟨rfl, List.Pairwise.nil, fun _ h => nomatch h⟩

/-- the head has been delivered: everything behind it is at least as new, so the sender's base may move up to it -/
theorem AckQ.tail {aq : List Nat} {k : Nat} {ks : List Nat} {B hi : Nat} (h : AckQ aq (k :: ks) B hi) {B' : Nat}
    (hB : B' ≤ k + 1) : AckQ (ks.map (· % 65536)) ks B' hi := by
  obtain ⟨-, h2, h3⟩ := h
  have hs := List.pairwise_cons.mp h2
  exact ⟨rfl, hs.2, fun x hx => ⟨Nat.le_trans hB (Nat.succ_le_succ (hs.1 x hx)), (h3 x (List.mem_cons_of_mem _ hx)).2⟩⟩

/-- `c` copies of an acknowledgement for `x`, which is at least as new as everything in flight -/
theorem AckQ.append {aq ks : List Nat} {B hi : Nat} (h : AckQ aq ks B hi) (c : Nat) {x hi' : Nat} (hx : B ≤ x + 1)
    (hhi : hi ≤ x) (hx' : x ≤ hi') : AckQ (aq ++ List.replicate c (x % 65536)) (ks ++ List.replicate c x) B hi' := by
  obtain ⟨h1, h2, h3⟩ := h
  refine ⟨by simp [h1], List.pairwise_append.mpr ⟨h2, List.pairwise_replicate.mpr (Or.inr (Nat.le_refl _)), ?_⟩, ?_⟩
  · intro a ha b hb
    rw [List.eq_of_mem_replicate hb]
    exact Nat.le_trans (h3 a ha).2 hhi
  · intro k hk
    rcases List.mem_append.mp hk with hk | hk
    · exact ⟨(h3 k hk).1, Nat.le_trans (Nat.le_trans (h3 k hk).2 hhi) hx'⟩
    · rw [List.eq_of_mem_replicate hk]; exact ⟨hx, hx'⟩

theorem AckQ.mono {aq ks : List Nat} {B hi hi' : Nat} (h : AckQ aq ks B hi) (hhi : hi ≤ hi') : AckQ aq ks B hi' :=
  ⟨h.eq, h.sorted, fun k hk => ⟨(h.mem k hk).1, Nat.le_trans (h.mem k hk).2 hhi⟩⟩

end Tftp
