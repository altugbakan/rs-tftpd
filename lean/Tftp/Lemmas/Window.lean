import Tftp.Generated
import Tftp.Model.Window
import Tftp.Lemmas.Blocks
/-!
`Window` (`src/window.rs`) operation by operation: what `add`, `remove`, `empty` and `fill` return, and the
read-side invariant `WRead` (the queue is a run of consecutive pieces of the file) that `fill` and `remove` keep.
-/
namespace Tftp

theorem maxRetries_pos : 0 < Gen.maxRetries := by decide

theorem write_content (fl : FileSt) (d : Bytes) : (fl.write d).content = fl.content ++ d := by
  unfold FileSt.write FileSt.content
  split
  · next he => rw [List.isEmpty_iff.mp he, List.append_nil]   -- an empty write is no write
  · simp

theorem write_canWrite (fl : FileSt) (d : Bytes) : (fl.write d).canWrite = fl.canWrite := by
  unfold FileSt.write; split <;> rfl

theorem foldl_write_content (es : List Bytes) (fl : FileSt) :
    (es.foldl FileSt.write fl).content = fl.content ++ es.flatten := by
  induction es generalizing fl with
  | nil => simp
  | cons e es ih => simp [ih, write_content]

theorem foldl_write_canWrite (es : List Bytes) (fl : FileSt) : (es.foldl FileSt.write fl).canWrite = fl.canWrite := by
  induction es generalizing fl with
  | nil => rfl
  | cons e es ih => exact (ih _).trans (write_canWrite fl e)

/-- the `as u16` of `Window::len` is harmless while the queue is shorter than 65536 -/
theorem Window.len_eq {w : Window} (h : w.elems.length < 65536) : w.len = w.elems.length :=
  Nat.mod_eq_of_lt h

theorem Window.add_eq {w : Window} (d : Bytes) (h : w.len ≠ w.size) :
    w.add d = ({ w with elems := w.elems ++ [d] }, .ok ()) := by
  simp [Window.add, h]

theorem Window.add_full {w : Window} (d : Bytes) (h : w.len = w.size) : w.add d = (w, .err) := by
  simp [Window.add, h]

theorem Window.remove_eq {w : Window} {k : Nat} (h : k ≤ w.len) :
    w.remove k = ({ w with elems := w.elems.drop k }, .ok ()) := by
  simp [Window.remove, Nat.not_lt.mpr h]

theorem Window.remove_gt {w : Window} {k : Nat} (h : w.len < k) : w.remove k = (w, .err) := by
  simp [Window.remove, h]

theorem Window.empty_eq {w : Window} (h : w.file.canWrite = true) :
    w.empty = ({ w with elems := [], file := w.elems.foldl FileSt.write w.file }, .ok ()) := by
  simp [Window.empty, h]

/-- the read loop in closed form: starting at slice `k` of the file it appends slices `k, k+1, …` until it has
read `n` of them or has read the last (short) one -/
theorem fillLoop_eq {b : Nat} (hb : 0 < b) (f : Bytes) (n k : Nat) (es : List Bytes) (hk : k < nblocks b f) :
    fillLoop b n es (f.drop (k * b)) =
      (es ++ (List.range' k (min n (nblocks b f - k))).map (slice b f),
       f.drop ((k + min n (nblocks b f - k)) * b), decide (k + n < nblocks b f)) := by
  induction n generalizing k es with
  | zero => simp [fillLoop, hk]
  | succ n ih =>
    have hlast := blk_length_lt_iff b hb f (k + 1) (by omega) hk
    rw [blk, Nat.add_sub_cancel] at hlast
    rw [fillLoop]
    simp only [drop_drop_mul]
    split
    · rename_i hshort
      have hN : nblocks b f - k = 1 := by
        have : (slice b f k).length ≤ b := by rw [slice_length]; exact Nat.min_le_left _ _
        have := hlast.mp (Nat.lt_of_le_of_ne this hshort)
        omega
      have h1 : min (n + 1) 1 = 1 := by omega
      have h2 : ¬ k + (n + 1) < nblocks b f := by omega
      simp [hN, h1, h2, slice]
    · rename_i hfull
      have hk' : k + 1 < nblocks b f := by
        have : ¬ (slice b f k).length < b := fun h => hfull (Nat.ne_of_lt h)
        have := mt hlast.mpr this
        omega
      have hm : min (n + 1) (nblocks b f - k) = min n (nblocks b f - (k + 1)) + 1 := by omega
      rw [ih (k + 1) _ hk', hm, List.range'_succ]
      simp [slice, Nat.add_assoc, Nat.add_comm 1]

/-- read side: the window holds pieces `removed .. removed+len` of the file `f`, the file cursor stands
right behind them, and once the short piece has been handed out nothing follows it -/
structure WRead (f : Bytes) (removed : Nat) (w : Window) : Prop where
  elems_eq : ∀ i, i < w.elems.length → w.elems[i]? = some (slice w.chunk f (removed + i))
  cur : w.eof = false → w.file.rest = f.drop ((removed + w.elems.length) * w.chunk)
          ∧ (removed + w.elems.length) * w.chunk ≤ f.length
  fin : w.eof = true → removed + w.elems.length = f.length / w.chunk + 1
  len_le : w.elems.length ≤ w.size
  can_read : w.file.canRead = true

theorem WRead.elems_map {f : Bytes} {r : Nat} {w : Window} (h : WRead f r w) :
    w.elems = (List.range' r w.elems.length).map (slice w.chunk f) :=
  (eq_map_range'_iff _ r _).mp h.elems_eq

theorem WRead.len_eq {f : Bytes} {r : Nat} {w : Window} (h : WRead f r w) (hs : w.size < 65536) :
    w.len = w.elems.length :=
  Window.len_eq (Nat.lt_of_le_of_lt h.len_le hs)

theorem WRead.new (size chunk : Nat) (f : Bytes) : WRead f 0 (Window.new size chunk (FileSt.openRead f)) :=
  ⟨by simp [Window.new], by simp [Window.new, FileSt.openRead], by simp [Window.new], by simp [Window.new], rfl⟩

theorem WRead.fill {f : Bytes} {r : Nat} {w : Window} (h : WRead f r w) (hc : 0 < w.chunk) (hs : w.size < 65536) :
    ∃ w', w.fill = (w', .ok (!w'.eof)) ∧ WRead f r w' ∧ w'.size = w.size ∧ w'.chunk = w.chunk ∧
      (∃ more, w'.elems = w.elems ++ more) ∧ (w'.eof = false → w'.elems.length = w.size) ∧
      (w.eof = false → w.elems.length < w.size → w.elems.length < w'.elems.length) := by
  have hle := h.len_le
  unfold Window.fill
  cases heof : w.eof with
  | true => exact ⟨w, by simp [heof], h, rfl, rfl, ⟨[], by simp⟩, by simp [heof], by simp⟩
  | false =>
    rw [h.len_eq hs]
    by_cases hn : w.size - w.elems.length = 0
    · exact ⟨w, by simp [hn, heof], h, rfl, rfl, ⟨[], by simp⟩, fun _ => by omega, fun _ _ => by omega⟩
    · obtain ⟨hrest, hcur⟩ := h.cur heof
      have hk := (mul_le_length_iff hc f _).mp hcur
      simp only [Bool.false_eq_true, ↓reduceIte, hn, h.can_read, Bool.not_true, hrest, fillLoop_eq hc f _ _ _ hk]
      generalize hj : min (w.size - w.elems.length) (nblocks w.chunk f - (r + w.elems.length)) = j
      -- all that matters of the number `j` of pieces read: the queue is topped up, or the file has been read to its end
      have key : w.elems.length + j ≤ w.size ∧ w.elems.length < w.elems.length + j ∧
          (r + w.elems.length + (w.size - w.elems.length) < nblocks w.chunk f →
            w.elems.length + j = w.size ∧ r + w.elems.length + j < nblocks w.chunk f) ∧
          (¬ r + w.elems.length + (w.size - w.elems.length) < nblocks w.chunk f →
            r + (w.elems.length + j) = f.length / w.chunk + 1) := by
        unfold nblocks at hk hj ⊢
        omega
      obtain ⟨hle', hgrow, hfull, hend⟩ := key
      have hl : (w.elems ++ (List.range' (r + w.elems.length) j).map (slice w.chunk f)).length = w.elems.length + j := by
        simp
      refine ⟨_, Prod.ext rfl (by simp), ⟨?_, ?_, ?_, ?_, rfl⟩, rfl, rfl, ⟨_, rfl⟩, ?_, ?_⟩
      · rw [eq_map_range'_iff, hl, ← List.range'_append_1, List.map_append, ← h.elems_map]
      · intro he
        rw [hl, ← Nat.add_assoc]
        exact ⟨rfl, (mul_le_length_iff hc f _).mpr (hfull (by simpa using he)).2⟩
      · intro he
        simp only [hl]
        exact hend (by simpa using he)
      · simp only [hl]; exact hle'
      · intro he
        simp only [hl]
        exact (hfull (by simpa using he)).1
      · intro _ _
        simp only [hl]; exact hgrow

theorem WRead.remove {f : Bytes} {r : Nat} {w : Window} (h : WRead f r w) {k : Nat} (hk : k ≤ w.elems.length) :
    WRead f (r + k) { w with elems := w.elems.drop k } := by
  have e : r + k + (w.elems.length - k) = r + w.elems.length := by omega
  refine ⟨?_, ?_, ?_, by have := h.len_le; simp; omega, h.can_read⟩
  · intro i hi
    simp only [List.length_drop] at hi
    rw [List.getElem?_drop, h.elems_eq (k + i) (by omega), Nat.add_assoc]
  · simpa only [List.length_drop, e] using h.cur
  · simpa only [List.length_drop, e] using h.fin

end Tftp
