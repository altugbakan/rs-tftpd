import Tftp.Model.Sender
import Tftp.Lemmas.Window
/-!
The sender (`send_file`): its invariant (`sinv_iff`: the window part of `SInv` is `WRead`, the queue is blocks
`base, base+1, …` of the file; the rest ties the 16-bit `block_number` to the absolute index `base` of the window
front), its transition function as a decision followed by a transmission and case by case, what every transition
emits, and the same in block counts for a sender that waits for an acknowledgement (`SWait`), which is what the
closed loop needs.
-/
namespace Tftp

structure SInv (c : SCfg) (f : Bytes) (s : SState) : Prop where
  base_pos : 1 ≤ s.base
  bn_eq : s.bn = s.base % 65536
  elems_eq : ∀ i, i < s.win.elems.length → s.win.elems[i]? = some (slice c.b f (s.base - 1 + i))
  cur : s.win.eof = false → s.win.file.rest = f.drop ((s.base - 1 + s.win.elems.length) * c.b)
          ∧ (s.base - 1 + s.win.elems.length) * c.b ≤ f.length
  fin : s.win.eof = true → s.base - 1 + s.win.elems.length = f.length / c.b + 1
  len_le : s.win.elems.length ≤ c.w
  size_eq : s.win.size = c.w
  chunk_eq : s.win.chunk = c.b
  can_read : s.win.file.canRead = true
  filled_eq : s.filled = !s.win.eof
  retry_lt : s.status ≠ .failed → s.retry < Gen.maxRetries

/-- what an emitted DATA packet is: block `k` of the file with `1 ≤ k ≤ N`, inside the window
`[base, base + w)`, numbered `k mod 65536` -/
def GoodData (c : SCfg) (f : Bytes) (base : Nat) (p : Packet) : Prop :=
  ∃ k, base ≤ k ∧ k < base + c.w ∧ 1 ≤ k ∧ k ≤ nblocks c.b f ∧ p = Packet.data (k % 65536) (blk c.b f k)

/-- an emitted packet: block `k` of the file, `1 ≤ k ≤ N`, numbered `k mod 65536`; or the single
ERROR 4 with which `check_response` answers a non-zero ACK -/
def GoodPkt (c : SCfg) (f : Bytes) (p : Packet) : Prop :=
  (∃ k, 1 ≤ k ∧ k ≤ nblocks c.b f ∧ p = Packet.data (k % 65536) (blk c.b f k)) ∨ p = illegalOp

theorem GoodData.toPkt {c : SCfg} {f : Bytes} {base : Nat} {p : Packet} (h : GoodData c f base p) :
    GoodPkt c f p := by
  obtain ⟨k, _, _, h1, h2, h3⟩ := h
  exact Or.inl ⟨k, h1, h2, h3⟩

/-! ### 16-bit block numbers against absolute indices -/

/-- the offset `diff` that `send_file` computes from the number of an acknowledgement for block `B + d` -/
theorem wrap_diff (B d : Nat) (hd : d < 65536) : ((B + d) % 65536 + 65536 - B % 65536) % 65536 = d := by omega

/-- the acknowledged block carries the number of the acknowledgement … -/
theorem wrap_acked (B n : Nat) : (B + (n + 65536 - B % 65536) % 65536) % 65536 = n % 65536 := by omega

/-- … and the new front of the window the next one -/
theorem wrap_next (B n : Nat) : (B + (n + 65536 - B % 65536) % 65536 + 1) % 65536 = (n + 1) % 65536 := by omega

theorem sinv_iff {c : SCfg} {f : Bytes} {s : SState} :
    SInv c f s ↔ 1 ≤ s.base ∧ s.bn = s.base % 65536 ∧ WRead f (s.base - 1) s.win ∧ s.win.size = c.w ∧
      s.win.chunk = c.b ∧ s.filled = !s.win.eof ∧ (s.status ≠ .failed → s.retry < Gen.maxRetries) := by
  constructor
  · intro h
    have hc := h.chunk_eq
    exact ⟨h.base_pos, h.bn_eq, ⟨hc ▸ h.elems_eq, hc ▸ h.cur, hc ▸ h.fin, h.size_eq ▸ h.len_le, h.can_read⟩, h.size_eq, hc,
      h.filled_eq, h.retry_lt⟩
  · intro ⟨h1, h2, hwr, hs, hc, h6, h7⟩
    exact ⟨h1, h2, hc ▸ hwr.elems_eq, hc ▸ hwr.cur, hc ▸ hwr.fin, hs ▸ hwr.len_le, hs, hc, hwr.can_read, h6, h7⟩

/-- the invariant does not read the clock; it reads `status` and `retry` only through the retry bound -/
theorem SInv.congr {c : SCfg} {f : Bytes} {s t : SState} (h : SInv c f s) (hbase : t.base = s.base) (hbn : t.bn = s.bn)
    (hwin : t.win = s.win) (hfilled : t.filled = s.filled) (hretry : t.status ≠ .failed → t.retry < Gen.maxRetries) :
    SInv c f t := by
  obtain ⟨_, _, _, _, _, _, _⟩ := s
  obtain ⟨_, _, _, _, _, _, _⟩ := t
  simp only at hbase hbn hwin hfilled
  subst hbase hbn hwin hfilled
  exact { h with retry_lt := hretry }

theorem SInv.len_eq {c : SCfg} {f : Bytes} {s : SState} (h : SInv c f s) (hw : c.w < 65536) :
    s.win.len = s.win.elems.length :=
  Window.len_eq (Nat.lt_of_le_of_lt h.len_le hw)

theorem SInv.elems_blk {c : SCfg} {f : Bytes} {s : SState} (h : SInv c f s) :
    s.win.elems = (List.range' s.base s.win.elems.length).map (blk c.b f) := by
  rw [← eq_map_range'_iff]
  intro i hi
  rw [h.elems_eq i hi, blk, show s.base + i - 1 = s.base - 1 + i by have := h.base_pos; omega]

theorem SInv.eof_iff {c : SCfg} {f : Bytes} {s : SState} (h : SInv c f s) (hb : 0 < c.b) :
    s.win.eof = true ↔ s.base + s.win.elems.length = nblocks c.b f + 1 := by
  have hp := h.base_pos
  constructor
  · intro he; have := h.fin he; unfold nblocks; omega
  · intro he
    cases heof : s.win.eof with
    | true => rfl
    | false => have := (mul_le_length_iff hb f _).mp (h.cur heof).2; omega

theorem SInv.top_le {c : SCfg} {f : Bytes} {s : SState} (h : SInv c f s) (hb : 0 < c.b) :
    s.base + s.win.elems.length ≤ nblocks c.b f + 1 := by
  cases heof : s.win.eof with
  | true => exact Nat.le_of_eq ((h.eof_iff hb).mp heof)
  | false => have := (mul_le_length_iff hb f _).mp (h.cur heof).2; have := h.base_pos; omega

/-! ### `send_file` as a decision followed by a transmission -/

/-- what `send_file` does with an event: it moves to the state `t` and then sends nothing (`quiet`), answers a wrong reply to
the OACK with the one ERROR (`refuse`), goes back to the head of the inner loop (`head`: the window goes out if the timer is
due), or starts an outer iteration (`outer`: refill, then the window goes out) -/
inductive SAct where
  | quiet (t : SState)
  | refuse (t : SState)
  | head (t : SState)
  | outer (t : SState)

def SAct.state : SAct → SState
  | .quiet t | .refuse t | .head t | .outer t => t

/-- the decision does not read the configuration -/
def sDecide (s : SState) (ev : SEv) (dt : Nat) : SAct :=
  match s.status with
  | .handshake =>
    match ev with
    | .ack n => if n = 0 then .outer { s with status := .running } else .refuse { s with status := .failed }
    | .error | .fail => .quiet { s with status := .failed }
    | .other => .outer { s with status := .running }
  | .running =>
    let s := { s with since := s.since + dt }
    match ev with
    | .ack n =>
      let diff := (n + 65536 - s.bn) % 65536
      if diff < s.win.len then
        if !(slide s n diff).filled && (slide s n diff).win.isEmpty then .quiet { slide s n diff with status := .ok }
        else .outer (slide s n diff)
      else .head s
    | .error => .quiet { s with status := .failed }
    | _ =>
      if s.retry + 1 = Gen.maxRetries then .quiet { s with retry := s.retry + 1, status := .failed }
      else .head { s with retry := s.retry + 1 }
  | _ => .quiet s

def SAct.run (c : SCfg) : SAct → SState × List Packet
  | .quiet t => (t, [])
  | .refuse t => (t, [illegalOp])
  | .head t => sHead c t
  | .outer t => sOuter c t

theorem sStep_eq (c : SCfg) (s : SState) (ev : SEv) (dt : Nat) : sStep c s ev dt = (sDecide s ev dt).run c := by
  cases hs : s.status <;> cases ev <;> simp only [sStep, sDecide, hs, apply_ite (SAct.run c)] <;> rfl

/-! ### the transition function, case by case -/

theorem sHead_due {c : SCfg} {s : SState} (h : c.timeout ≤ s.since) :
    sHead c s = ({ s with since := 0 }, sendWindow c.rep s.bn s.win.elems) := by
  simp [sHead, h]

theorem sHead_quiet {c : SCfg} {s : SState} (h : s.since < c.timeout) : sHead c s = (s, []) := by
  simp [sHead, Nat.not_le.mpr h]

theorem sHead_fst (c : SCfg) (s : SState) :
    (sHead c s).1 = { s with since := if s.since ≥ c.timeout then 0 else s.since } := by
  unfold sHead; split <;> rfl

/-- a new outer iteration after a successful `fill`: the timer is set back far enough for the window to go out at once -/
theorem sOuter_eq {c : SCfg} {s : SState} {w' : Window} {fl : Bool} (h : s.win.fill = (w', .ok fl)) :
    sOuter c s = ({ s with win := w', filled := fl, retry := 0, since := 0 }, sendWindow c.rep s.bn w'.elems) := by
  rw [sOuter, h]
  exact sHead_due (Nat.le_add_right _ _)

theorem sStep_ended (c : SCfg) (s : SState) (ev : SEv) (dt : Nat) (h : s.status = .ok ∨ s.status = .failed) :
    sStep c s ev dt = (s, []) := by
  unfold sStep
  rcases h with h | h <;> simp [h]

theorem sStep_error_eq (c : SCfg) {s : SState} (dt : Nat) (h : s.status = .running) :
    sStep c s .error dt = ({ s with since := s.since + dt, status := .failed }, []) := by
  simp only [sStep, h]

theorem sStep_fail {c : SCfg} {s : SState} {ev : SEv} (dt : Nat) (hrun : s.status = .running) (hev : ev = .fail ∨ ev = .other) :
    sStep c s ev dt =
      if s.retry + 1 = Gen.maxRetries
      then ({ s with since := s.since + dt, retry := s.retry + 1, status := .failed }, [])
      else sHead c { s with since := s.since + dt, retry := s.retry + 1 } := by
  unfold sStep
  rcases hev with rfl | rfl <;> simp only [hrun]

theorem sStep_giveup {c : SCfg} {s : SState} (dt : Nat) (hrun : s.status = .running) (hr : s.retry + 1 = Gen.maxRetries) :
    sStep c s .fail dt = ({ s with since := s.since + dt, retry := Gen.maxRetries, status := .failed }, []) := by
  rw [sStep_fail _ hrun (Or.inl rfl), if_pos hr, hr]

theorem sStep_stale {c : SCfg} (hw : c.w < 65536) {f : Bytes} {s : SState} (h : SInv c f s) (hrun : s.status = .running)
    (n dt : Nat) (hst : ¬ (n + 65536 - s.bn) % 65536 < s.win.elems.length) :
    sStep c s (.ack n) dt = sHead c { s with since := s.since + dt } := by
  unfold sStep
  simp only [hrun, h.len_eq hw, hst, ↓reduceIte]

/-- An acknowledgement `n` for the outstanding block at offset `d`. The offset is a variable with its defining equation
as a hypothesis, here and below (callers that have no name for it pass `rfl`): with the `% 65536` term inside the
statement the kernel's check of every proof that mentions it is many times dearer. -/
theorem sStep_ack_eq {c : SCfg} (hw : c.w < 65536) {f : Bytes} {s : SState} (h : SInv c f s) (hrun : s.status = .running)
    (n dt : Nat) {d : Nat} (hd : (n + 65536 - s.bn) % 65536 = d) (hin : d < s.win.elems.length) :
    sStep c s (.ack n) dt =
      if (!s.filled && (s.win.elems.drop (d + 1)).isEmpty) = true
      then ({ slide { s with since := s.since + dt } n d with status := .ok }, [])
      else sOuter c (slide { s with since := s.since + dt } n d) := by
  unfold sStep
  simp only [hrun, h.len_eq hw, hd, hin, ↓reduceIte]
  rfl

/-! ### what is emitted -/

theorem sendWindow_length (rep bn : Nat) (es : List Bytes) :
    (sendWindow rep bn es).length = rep * es.length := by
  induction es generalizing bn with
  | nil => simp [sendWindow]
  | cons e es ih => simp [sendWindow, sendPacket, ih, Nat.mul_add]; omega

theorem mem_sendWindow (rep bn : Nat) (hbn : bn < 65536) (es : List Bytes) (p : Packet)
    (h : p ∈ sendWindow rep bn es) :
    ∃ i e, i < es.length ∧ es[i]? = some e ∧ p = Packet.data ((bn + i) % 65536) e := by
  induction es generalizing bn with
  | nil => simp [sendWindow] at h
  | cons c cs ih =>
    simp only [sendWindow, List.mem_append, sendPacket] at h
    rcases h with h | h
    · exact ⟨0, c, by simp, by simp, by rw [List.eq_of_mem_replicate h, Nat.add_zero, Nat.mod_eq_of_lt hbn]⟩
    · obtain ⟨i, e, hi, he, hp⟩ := ih _ (Nat.mod_lt _ (by decide)) h
      exact ⟨i + 1, e, by simp; omega, by simpa using he, by rw [hp]; congr 1; omega⟩

theorem SInv.window_good {c : SCfg} {f : Bytes} {s : SState} (h : SInv c f s) (hb : 0 < c.b) (p : Packet)
    (hp : p ∈ sendWindow c.rep s.bn s.win.elems) : GoodData c f s.base p := by
  obtain ⟨i, e, hi, he, rfl⟩ := mem_sendWindow c.rep s.bn (h.bn_eq ▸ Nat.mod_lt _ (by decide)) _ p hp
  have := h.top_le hb
  have := h.len_le
  have := h.base_pos
  rw [h.elems_blk] at he
  simp only [List.getElem?_map, List.getElem?_range', hi, Option.map_some, Option.some.injEq, Nat.one_mul] at he
  exact ⟨s.base + i, by omega, by omega, by omega, by omega, by rw [← he, h.bn_eq]; congr 1; omega⟩

/-! ### the transitions keep the invariant -/

theorem SInv.status {c : SCfg} {f : Bytes} {s : SState} (h : SInv c f s) (st : Status)
    (hst : st ≠ .failed → s.status ≠ .failed) : SInv c f { s with status := st } :=
  h.congr rfl rfl rfl rfl fun hne => h.retry_lt (hst hne)

theorem init_inv (c : SCfg) (f : Bytes) :
    SInv c f { bn := 1, win := Window.new c.w c.b (FileSt.openRead f), filled := true, retry := 0,
               since := 0, status := .handshake, base := 1 } :=
  sinv_iff.mpr ⟨Nat.le_refl _, rfl, WRead.new c.w c.b f, rfl, rfl, rfl, fun _ => maxRetries_pos⟩

theorem head_good {c : SCfg} (hb : 0 < c.b) {f : Bytes} {s : SState} (h : SInv c f s) :
    SInv c f (sHead c s).1 ∧ (sHead c s).1.base = s.base ∧ ∀ p ∈ (sHead c s).2, GoodData c f s.base p := by
  unfold sHead
  split
  · exact ⟨h.congr rfl rfl rfl rfl h.retry_lt, rfl, h.window_good hb⟩
  · exact ⟨h, rfl, fun _ hp => nomatch hp⟩

theorem fill_ok {c : SCfg} (hb : 0 < c.b) (hw : c.w < 65536) {f : Bytes} {s : SState} (h : SInv c f s) :
    ∃ w' fl, s.win.fill = (w', .ok fl) ∧
      SInv c f { s with win := w', filled := fl, retry := 0, since := c.timeout + Gen.timeoutBufferMs } ∧
      s.win.elems.length ≤ w'.elems.length ∧
      (w'.eof = false → w'.elems.length = c.w) ∧
      (s.win.eof = false → s.win.elems.length < c.w → s.win.elems.length < w'.elems.length) := by
  obtain ⟨h1, h2, hwr, hs, hc, -, -⟩ := sinv_iff.mp h
  obtain ⟨w', hfill, hwr', hs', hc', ⟨more, hmore⟩, hfresh, hgrow⟩ := hwr.fill (hc ▸ hb) (hs ▸ hw)
  exact ⟨w', _, hfill, sinv_iff.mpr ⟨h1, h2, hwr', hs'.trans hs, hc'.trans hc, rfl, fun _ => maxRetries_pos⟩,
    by simp [hmore], hs ▸ hfresh, hs ▸ hgrow⟩

theorem outer_good {c : SCfg} (hb : 0 < c.b) (hw : c.w < 65536) {f : Bytes} {s : SState} (h : SInv c f s) :
    SInv c f (sOuter c s).1 ∧ (sOuter c s).1.base = s.base ∧ ∀ p ∈ (sOuter c s).2, GoodData c f s.base p := by
  obtain ⟨w', fl, hfill, hinv, -⟩ := fill_ok hb hw h
  rw [sOuter, hfill]
  exact head_good hb hinv

theorem slide_inv {c : SCfg} {f : Bytes} {s : SState} (h : SInv c f s) (n : Nat) {d : Nat}
    (hd : (n + 65536 - s.bn) % 65536 = d) (hin : d < s.win.elems.length) : SInv c f (slide s n d) := by
  obtain ⟨h1, h2, hwr, hs, hc, h6, h7⟩ := sinv_iff.mp h
  refine sinv_iff.mpr ⟨Nat.le_add_left _ _, ?_, ?_, hs, hc, h6, h7⟩
  · show (n + 1) % 65536 = (s.base + d + 1) % 65536
    rw [← hd, h2, wrap_next]
  · have := hwr.remove (Nat.succ_le_of_lt hin)
    rwa [show s.base - 1 + (d + 1) = s.base + d + 1 - 1 by omega] at this

theorem sDecide_inv {c : SCfg} (hw : c.w < 65536) {f : Bytes} {s : SState} (h : SInv c f s) (ev : SEv) (dt : Nat) :
    SInv c f (sDecide s ev dt).state ∧ s.base ≤ (sDecide s ev dt).state.base := by
  have hfailed : ∀ t : SState, t.base = s.base → t.bn = s.bn → t.win = s.win → t.filled = s.filled → t.status = .failed →
      SInv c f t ∧ s.base ≤ t.base := fun t h1 h2 h3 h4 h5 => ⟨h.congr h1 h2 h3 h4 (absurd h5), Nat.le_of_eq h1.symm⟩
  unfold sDecide
  cases hst : s.status with
  | handshake =>
    have hrun : SInv c f { s with status := .running } := h.status _ fun _ => by simp [hst]
    cases ev with
    | ack n =>
      dsimp only
      split
      · exact ⟨hrun, Nat.le_refl _⟩
      · exact hfailed _ rfl rfl rfl rfl rfl
    | error | fail => exact hfailed _ rfl rfl rfl rfl rfl
    | other => exact ⟨hrun, Nat.le_refl _⟩
  | running =>
    have hlt := h.retry_lt (by simp [hst])
    have h0 : SInv c f { s with since := s.since + dt, status := .running } := h.congr rfl rfl rfl rfl fun _ => hlt
    cases ev with
    | ack n =>
      dsimp only
      split
      · next hin =>
        have hs' := slide_inv h0 n rfl (h.len_eq hw ▸ hin)
        split
        · exact ⟨hs'.status _ fun _ => by simp [slide], Nat.le_succ_of_le (Nat.le_add_right _ _)⟩
        · exact ⟨hs', Nat.le_succ_of_le (Nat.le_add_right _ _)⟩
      · exact ⟨h0, Nat.le_refl _⟩
    | error => exact hfailed _ rfl rfl rfl rfl rfl
    | fail | other =>
      dsimp only
      split
      · exact hfailed _ rfl rfl rfl rfl rfl
      · exact ⟨h.congr rfl rfl rfl rfl fun _ => by show s.retry + 1 < _; omega, Nat.le_refl _⟩
  | ok | failed => exact ⟨h, Nat.le_refl _⟩

theorem SAct.run_good {c : SCfg} (hb : 0 < c.b) (hw : c.w < 65536) {f : Bytes} {a : SAct} (h : SInv c f a.state) :
    SInv c f (a.run c).1 ∧ (a.run c).1.base = a.state.base ∧ ∀ p ∈ (a.run c).2, GoodData c f a.state.base p ∨ p = illegalOp := by
  cases a with
  | quiet t => exact ⟨h, rfl, fun _ hp => nomatch hp⟩
  | refuse t => exact ⟨h, rfl, fun p hp => Or.inr (List.mem_singleton.mp hp)⟩
  | head t => have ⟨h1, h2, h3⟩ := head_good hb h; exact ⟨h1, h2, fun p hp => Or.inl (h3 p hp)⟩
  | outer t => have ⟨h1, h2, h3⟩ := outer_good hb hw h; exact ⟨h1, h2, fun p hp => Or.inl (h3 p hp)⟩

theorem step_good {c : SCfg} (hb : 0 < c.b) (hw : c.w < 65536) {f : Bytes} {s : SState} (h : SInv c f s)
    (ev : SEv) (dt : Nat) :
    SInv c f (sStep c s ev dt).1 ∧ s.base ≤ (sStep c s ev dt).1.base ∧
      ∀ p ∈ (sStep c s ev dt).2, GoodData c f (sStep c s ev dt).1.base p ∨ p = illegalOp := by
  obtain ⟨hinv, hle⟩ := sDecide_inv hw h ev dt
  obtain ⟨h1, h2, h3⟩ := SAct.run_good hb hw hinv
  rw [sStep_eq]
  exact ⟨h1, h2 ▸ hle, h2 ▸ h3⟩

theorem init_good {c : SCfg} (hb : 0 < c.b) (hw : c.w < 65536) (f : Bytes) (chk : Bool) :
    SInv c f (sInit c f chk).1 ∧ ∀ p ∈ (sInit c f chk).2, GoodPkt c f p := by
  unfold sInit
  cases chk with
  | true => exact ⟨init_inv c f, by simp⟩
  | false =>
    have ⟨h1, _, h3⟩ := outer_good hb hw ((init_inv c f).status .running fun _ => by simp)
    exact ⟨h1, fun p hp => (h3 p hp).toPkt⟩

theorem runFrom_good {c : SCfg} (hb : 0 < c.b) (hw : c.w < 65536) {f : Bytes} (evs : List (SEv × Nat)) (s : SState)
    (h : SInv c f s) : ∀ g ∈ (sRunFrom c s evs).1, ∀ p ∈ g, GoodPkt c f p := by
  induction evs generalizing s with
  | nil => exact fun _ hg => nomatch hg
  | cons e es ih =>
    obtain ⟨h1, -, h3⟩ := step_good hb hw h e.1 e.2
    intro g hg p hp
    rcases List.mem_cons.mp hg with rfl | hg
    · exact (h3 p hp).elim GoodData.toPkt Or.inr
    · exact ih _ h1 g hg p hp

theorem run_good {c : SCfg} (hb : 0 < c.b) (hw : c.w < 65536) (f : Bytes) (chk : Bool)
    (evs : List (SEv × Nat)) :
    ∀ g ∈ (sRun c f chk evs).1, ∀ p ∈ g, GoodPkt c f p := by
  obtain ⟨h0, h1⟩ := init_good hb hw f chk
  intro g hg p hp
  rcases List.mem_cons.mp hg with rfl | hg
  · exact h1 p hp
  · exact runFrom_good hb hw evs _ h0 g hg p hp

/-! ### the waiting sender: between a transmission and the next one -/

/-- a running sender whose whole window `[base, base + len)` is on the wire and whose retransmission timer has just
been armed: the state at every `recv` of the data phase that follows a (re)transmission -/
structure SWait (c : SCfg) (f : Bytes) (s : SState) : Prop where
  inv : SInv c f s
  running : s.status = .running
  since : s.since = 0
  nonempty : 0 < s.win.elems.length
  full_unless_eof : s.win.eof = false → s.win.elems.length = c.w

/-- the state `t` reached by an acknowledgement `n` for the outstanding block at offset `d`, not the final one: it waits again,
with the window `[base + d + 1, …)` on the wire -/
structure Slid (c : SCfg) (f : Bytes) (s : SState) (n d : Nat) (t : SState) : Prop where
  wait : SWait c f t
  base : t.base = s.base + d + 1
  bn : t.bn = (n + 1) % 65536
  retry : t.retry = 0
  grow : s.win.elems.length - (d + 1) ≤ t.win.elems.length

/-- **the data phase on an acknowledgement for the outstanding block `base + d`**: if that is the final block the
transfer ends successfully in silence; otherwise the window slides past it, is refilled, and is sent whole -/
theorem sStep_ack_in {c : SCfg} (hb : 0 < c.b) (hw : c.w < 65536) {f : Bytes} {s : SState} (h : SInv c f s)
    (hrun : s.status = .running) (n dt : Nat) {d : Nat} (hd : (n + 65536 - s.bn) % 65536 = d) (hin : d < s.win.elems.length) :
    (s.base + d = nblocks c.b f ∧
      sStep c s (.ack n) dt = ({ slide { s with since := s.since + dt } n d with status := .ok }, [])) ∨
    (s.base + d < nblocks c.b f ∧
      ∃ t, sStep c s (.ack n) dt = (t, sendWindow c.rep t.bn t.win.elems) ∧ Slid c f s n d t) := by
  have htop := h.top_le hb
  have heof := h.eof_iff hb
  have hs' : SInv c f (slide { s with since := s.since + dt } n d) :=
    slide_inv (s := { s with since := s.since + dt }) (h.congr rfl rfl rfl rfl h.retry_lt) n hd hin
  have hdone : (!s.filled && (s.win.elems.drop (d + 1)).isEmpty) = true ↔ s.base + d = nblocks c.b f := by
    rw [h.filled_eq, Bool.not_not, Bool.and_eq_true, heof, List.isEmpty_iff, List.drop_eq_nil_iff]
    omega
  rw [sStep_ack_eq hw h hrun n dt hd hin]
  by_cases hN : s.base + d = nblocks c.b f
  · exact Or.inl ⟨hN, if_pos (hdone.mpr hN)⟩
  · obtain ⟨w', fl, hfill, hinv, hmono, hfresh, hgrow⟩ := fill_ok hb hw hs'
    rw [if_neg (mt hdone.mp hN), sOuter_eq hfill]
    have hlen : (slide { s with since := s.since + dt } n d).win.elems.length = s.win.elems.length - (d + 1) := by
      simp [slide]
    rw [hlen] at hmono hgrow
    refine Or.inr ⟨by omega, _, rfl, ⟨hinv.congr rfl rfl rfl rfl fun _ => maxRetries_pos, hrun, rfl, ?_, hfresh⟩, rfl, rfl, rfl, hmono⟩
    by_cases hz : s.win.elems.length - (d + 1) = 0
    · have hne : s.win.eof = false := Bool.eq_false_iff.mpr (mt heof.mp (by omega))
      exact Nat.lt_of_le_of_lt (Nat.zero_le _) (hz ▸ hgrow hne (by have := h.len_le; omega))
    · exact Nat.lt_of_lt_of_le (Nat.pos_of_ne_zero hz) hmono

theorem SWait.bounds {c : SCfg} {f : Bytes} {s : SState} (h : SWait c f s) (hb : 0 < c.b) :
    0 < s.win.elems.length ∧ s.win.elems.length ≤ c.w ∧ s.base + s.win.elems.length ≤ nblocks c.b f + 1 ∧
      (s.win.elems.length = c.w ∨ s.base + s.win.elems.length = nblocks c.b f + 1) := by
  refine ⟨h.nonempty, h.inv.len_le, h.inv.top_le hb, ?_⟩
  cases heof : s.win.eof with
  | false => exact Or.inl (h.full_unless_eof heof)
  | true => exact Or.inr ((h.inv.eof_iff hb).mp heof)

theorem SWait.retry_lt {c : SCfg} {f : Bytes} {s : SState} (h : SWait c f s) : s.retry < Gen.maxRetries :=
  h.inv.retry_lt (by simp [h.running])

theorem SWait.init {c : SCfg} (hb : 0 < c.b) (hw1 : 1 ≤ c.w) (hw : c.w < 65536) (f : Bytes) :
    ∃ t, sInit c f false = (t, sendWindow c.rep t.bn t.win.elems) ∧ SWait c f t ∧ t.base = 1 ∧ t.retry = 0 := by
  obtain ⟨w', fl, hfill, hinv, -, hfresh, hgrow⟩ :=
    fill_ok hb hw ((init_inv c f).status .running fun _ => by simp)
  rw [sInit, if_neg (by simp), sOuter_eq hfill]
  exact ⟨_, rfl, ⟨hinv.congr rfl rfl rfl rfl fun _ => maxRetries_pos, rfl, rfl, hgrow rfl hw1, hfresh⟩, rfl, rfl⟩

theorem SWait.timeout {c : SCfg} {f : Bytes} {s : SState} (h : SWait c f s) (hr : s.retry + 1 ≠ Gen.maxRetries) :
    sStep c s .fail c.timeout = ({ s with retry := s.retry + 1 }, sendWindow c.rep s.bn s.win.elems) ∧
      SWait c f { s with retry := s.retry + 1 } := by
  have hlt := h.retry_lt
  rw [sStep_fail _ h.running (Or.inl rfl), if_neg hr, sHead_due (by simp [h.since])]
  exact ⟨by simp [h.since], h.inv.congr rfl rfl rfl rfl fun _ => by show s.retry + 1 < _; omega, h.running, h.since, h.nonempty, h.full_unless_eof⟩

theorem SWait.ack {c : SCfg} {f : Bytes} {s : SState} (h : SWait c f s) (hb : 0 < c.b) (hw : c.w < 65536) {B m k : Nat}
    (hB : s.base = B) (hm : s.win.elems.length = m) (hk : B ≤ k) (hkm : k < B + m) :
    (k = nblocks c.b f ∧ ∃ t, sStep c s (.ack (k % 65536)) 0 = (t, []) ∧ t.status = .ok) ∨
    (k < nblocks c.b f ∧ ∃ t, sStep c s (.ack (k % 65536)) 0 = (t, sendWindow c.rep t.bn t.win.elems) ∧ SWait c f t ∧
      t.base = k + 1 ∧ t.retry = 0 ∧ B + m ≤ k + 1 + t.win.elems.length) := by
  have hmw := hm ▸ h.inv.len_le
  have hkB : B + (k - B) = k := by omega
  have hd : (k % 65536 + 65536 - s.bn) % 65536 = k - B := by
    rw [h.inv.bn_eq, hB, ← hkB, wrap_diff B (k - B) (by omega), hkB]
  obtain ⟨hN, hfin⟩ | ⟨hN, t, hstep, ht⟩ := sStep_ack_in hb hw h.inv h.running (k % 65536) 0 hd (by omega)
  · exact Or.inl ⟨by omega, _, hfin, rfl⟩
  · exact Or.inr ⟨by omega, t, hstep, ht.wait, by have := ht.base; omega, ht.retry, by have := ht.grow; omega⟩

theorem SWait.ack_before {c : SCfg} {f : Bytes} {s : SState} (h : SWait c f s) (ht : 0 < c.timeout) (hw : c.w < 65536) {B k : Nat}
    (hB : s.base = B) (hk : k + 1 = B) : sStep c s (.ack (k % 65536)) 0 = (s, []) := by
  have hst : ¬ (k % 65536 + 65536 - s.bn) % 65536 < s.win.elems.length := by
    have := h.inv.len_le
    rw [h.inv.bn_eq, hB]; omega
  rw [sStep_stale hw h.inv h.running _ 0 hst, sHead_quiet (by simp [h.since, ht])]
  rfl

end Tftp
