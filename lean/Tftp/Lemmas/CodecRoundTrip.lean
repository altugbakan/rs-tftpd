import Tftp.Lemmas.Codec
/-! Round trip `decode (encode p) = ok p` for well-formed packets. -/
namespace Tftp

theorem toStr_ok {buf : Bytes} {i : Nat} {s r : Bytes} (hd : buf.drop i = s ++ 0 :: r)
    (hs : WFStr s) : toStr buf i = .ok (s, i + s.length) := by
  rw [toStr_of_drop hd hs.2, if_pos hs.1]

theorem toDec_wf (n : Nat) : WFStr (toDec n) :=
  ⟨validUtf8_of_ascii _ fun b hb =>
      UInt8.lt_iff_toNat_lt.mpr (Nat.lt_of_le_of_lt (toDec_digits n b hb).2 (by decide)),
    fun h => absurd (toDec_digits n 0 h).1 (by decide)⟩

theorem name_facts (t : OptionType) :
    WFStr t.name ∧ OptionType.ofName (lowerName t.name) = some t := by
  cases t <;> exact ⟨⟨by decide, by decide⟩, by decide⟩

theorem encodeOptions_cons (o : TransferOption) (os : List TransferOption) :
    encodeOptions (o :: os) = o.option.name ++ 0 :: (toDec o.value ++ 0 :: encodeOptions os) := by
  simp [encodeOptions, TransferOption.encode]

/-- From an index whose successor is where `encodeOptions os` starts, the option loop reads `os`
back. -/
theorem parseOptions_encode {buf : Bytes} (os : List TransferOption) (hwf : ∀ o ∈ os, WFOpt o) :
    ∀ (fuel zi : Nat) (acc : List TransferOption), zi < buf.length → buf.length - zi < fuel →
      buf.drop (zi + 1) = encodeOptions os → parseOptions buf fuel zi acc = .ok (acc ++ os) := by
  induction os with
  | nil =>
    intro fuel zi acc hzi hf hd
    match fuel, hf with
    | f + 1, _ =>
      rw [parseOptions_done (List.ne_nil_of_length_pos (by omega)) (List.drop_eq_nil_iff.mp hd),
        List.append_nil]
  | cons o os ih =>
    intro fuel zi acc hzi hf hd
    match fuel, hf with
    | f + 1, hf =>
      obtain ⟨hn, hname⟩ := name_facts o.option
      rw [encodeOptions_cons] at hd
      have hd' := drop_after hd
      have hlt := lt_of_drop hd
      have hlt' := lt_of_drop hd'
      simp only [parseOptions_succ (Nat.lt_of_le_of_lt (Nat.le_add_right _ _) hlt), toStr_ok hd hn,
        toStr_ok hd' (toDec_wf _), hname, parseUsize_toDec _ (hwf o List.mem_cons_self)]
      rw [ih (fun x hx => hwf x (List.mem_cons_of_mem _ hx)) f _ _ hlt' (by omega) (drop_after hd'),
        List.append_assoc]
      rfl

theorem parseRq_encode {buf f m : Bytes} {os : List TransferOption}
    (hd : buf.drop 2 = f ++ 0 :: (m ++ 0 :: encodeOptions os))
    (hf : WFStr f) (hm : WFStr m) (hos : ∀ o ∈ os, WFOpt o) (isRrq : Bool) :
    parseRq buf isRrq = .ok (if isRrq then .rrq f m os else .wrq f m os) := by
  have hd' := drop_after hd
  simp only [parseRq, toStr_ok hd hf, toStr_ok hd' hm]
  rw [parseOptions_encode os hos _ _ [] (lt_of_drop hd') (by omega) (drop_after hd')]
  rfl

theorem decode_encode (p : Packet) (h : WF p) : decode (encode p) = .ok p := by
  have hdr (o : Opcode) := u16be_value (Nat.lt_of_le_of_lt o.toU16_range.2 (by decide : 6 < 65536))
  cases p with
  | rrq f m os =>
    simp only [encode, List.append_assoc, u16be_append, List.cons_append, List.nil_append]
    rw [decode_cons (hdr .rrq), Opcode.ofU16_toU16]
    exact parseRq_encode rfl h.1 h.2.1 h.2.2 true
  | wrq f m os =>
    simp only [encode, List.append_assoc, u16be_append, List.cons_append, List.nil_append]
    rw [decode_cons (hdr .wrq), Opcode.ofU16_toU16]
    exact parseRq_encode rfl h.1 h.2.1 h.2.2 false
  | data n d =>
    rw [encode, List.append_assoc, u16be_append Opcode.data.toU16, decode_cons (hdr .data),
      Opcode.ofU16_toU16, toU16_u16be n h]
    rfl
  | ack n =>
    rw [encode, u16be_append Opcode.ack.toU16, decode_cons (hdr .ack), Opcode.ofU16_toU16,
      ← List.append_nil (u16be n), toU16_u16be n h]
  | error c m =>
    have hs (x y : UInt8) :=
      toStr_ok (buf := x :: y :: (u16be c.toU16 ++ (m ++ [0]))) (i := 4) (r := []) rfl h
    simp only [encode, List.append_assoc, u16be_append Opcode.error.toU16, List.cons_append,
      decode_cons (hdr .error),
      Opcode.ofU16_toU16, toU16_u16be _ (Nat.lt_of_le_of_lt c.toU16_le (by decide)), hs,
      ErrorCode.ofU16_toU16]
  | oack os =>
    rw [encode, u16be_append, decode_cons (hdr .oack), Opcode.ofU16_toU16,
      parseOptions_encode os h _ 1 [] (by simp) (by simp) rfl]
    rfl

end Tftp
