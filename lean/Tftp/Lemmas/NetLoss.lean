import Tftp.Lemmas.InFlight
/-!
The closed loop under an arbitrary schedule of lost and duplicated datagrams, for every window size.

One inductive invariant over `netStep`, `Ph`, with ghost block numbers for everything in flight, in phases:
`GS` (*g*oing, both *s*ides: the receiver is still running), `SA` (the *s*ender is *a*lone: the receiver has ended, with the
whole file or by giving up), `RA` (the *r*eceiver is *a*lone: the sender has given up), `Ended`.
While the receiver runs, the token and the debt of `Lemmas/InFlight.lean` show that a quiescent time-out never
happens without a counted loss. The step lemmas give the ghost parameters of the phase the successor is in, so that the
fault-free loop (`Lemmas/NetFree.lean`) can follow them.
-/
namespace Tftp

/-- parameters of a closed loop: one copy per datagram, both sides negotiated the same values -/
structure LoopCfg (sc : SCfg) (rc : RCfg) : Prop where
  hb : 0 < sc.b
  hw1 : 1 ≤ sc.w
  hw : sc.w < 65536
  hrep : sc.rep = 1
  rb : rc.b = sc.b
  rw : rc.w = sc.w
  rrep : rc.rep = 1

structure LoopCfgT (sc : SCfg) (rc : RCfg) : Prop extends LoopCfg sc rc where
  ht : 0 < sc.timeout

/-! ### the phases -/

/-- The sending side while it waits: window `[B, B+m)` on the wire, no more retries than quiescent time-outs `tmo`.
The two sides are bundled (`SSide`, `RSide`) so that a step which leaves one of them alone hands it on whole. -/
structure SSide (sc : SCfg) (f : Bytes) (s : SState) (tmo B m : Nat) : Prop where
  wait : SWait sc f s
  base : s.base = B
  len : s.win.elems.length = m
  retry : s.retry ≤ tmo

theorem SSide.bounds {sc : SCfg} {f : Bytes} {s : SState} {tmo B m : Nat} (h : SSide sc f s tmo B m) (hb : 0 < sc.b) :
    0 < m ∧ m ≤ sc.w ∧ B + m ≤ nblocks sc.b f + 1 ∧ (m = sc.w ∨ B + m = nblocks sc.b f + 1) :=
  h.base ▸ h.len ▸ h.wait.bounds hb

theorem SSide.emit {sc : SCfg} {f : Bytes} {s : SState} {tmo B m : Nat} (h : SSide sc f s tmo B m) (hrep : sc.rep = 1)
    (fl : Faults) (st : NetState) :
    emitData fl st (sendWindow sc.rep s.bn s.win.elems) =
      { st with dq := st.dq ++ (applyFaults fl.dropData fl.dupData st.nd (List.range' B m)).map (datum sc.b f),
                nd := st.nd + m } :=
  emitData_window h.wait.inv hrep h.base h.len fl st

/-- a quiescent time-out that leaves retries: the whole window goes out again -/
theorem SSide.timeout {sc : SCfg} {f : Bytes} {s : SState} {tmo B m : Nat} (h : SSide sc f s tmo B m)
    (hr : s.retry + 1 ≠ Gen.maxRetries) :
    sStep sc s .fail sc.timeout = ({ s with retry := s.retry + 1 }, sendWindow sc.rep s.bn s.win.elems) ∧
      SSide sc f { s with retry := s.retry + 1 } (tmo + 1) B m :=
  have ⟨hstep, hwait⟩ := h.wait.timeout hr
  ⟨hstep, hwait, h.base, h.len, Nat.succ_le_succ h.retry⟩

/-- an acknowledgement for block `k` of the window: the final one ends the transfer in silence; any other leads to a window
`[k+1, k+1+m')` that reaches at least as far, with a fresh retry budget -/
theorem SSide.ack {sc : SCfg} {f : Bytes} {s : SState} {tmo B m k : Nat} (h : SSide sc f s tmo B m) (hb : 0 < sc.b)
    (hw : sc.w < 65536) (hk : B ≤ k) (hkm : k < B + m) :
    (k = nblocks sc.b f ∧ ∃ t, sStep sc s (.ack (k % 65536)) 0 = (t, []) ∧ t.status = .ok) ∨
    (k < nblocks sc.b f ∧ ∃ t m', sStep sc s (.ack (k % 65536)) 0 = (t, sendWindow sc.rep t.bn t.win.elems) ∧
      SSide sc f t tmo (k + 1) m' ∧ t.retry = 0 ∧ B + m ≤ k + 1 + m') :=
  (h.wait.ack hb hw h.base h.len hk hkm).imp_right fun ⟨hkN, t, hstep, hwait, hbase, hretry, hgrow⟩ =>
    ⟨hkN, t, _, hstep, ⟨hwait, hbase, rfl, hretry ▸ Nat.zero_le _⟩, hretry, hgrow⟩

structure RSide (rc : RCfg) (f : Bytes) (r : RState) (tmo R p : Nat) : Prop where
  wait : RWait rc f r R p
  retry : r.retry ≤ tmo

/-- The closed loop while the receiver is running. Ghost parameters: `B`, `m` the sender's base and window length,
`R`, `p` the number of blocks the receiver has accepted and how many of them it still buffers (so `R - p` is the
highest block acknowledged so far), `ds` the numbers of the DATA datagrams in flight, `ks` the (unwrapped) numbers
of the acknowledgements in flight. -/
structure GS (sc : SCfg) (rc : RCfg) (fl : Faults) (f : Bytes) (st : NetState) (B m R p : Nat) (ds ks : List Nat) : Prop where
  snd : SSide sc f st.s st.timeouts B m
  rcv : RSide rc f st.r st.timeouts R p
  rel : InWindow B m R p (nblocks sc.b f)
  data : DataQ sc.b f st.dq ds B m
  acks : AckQ st.aq ks B (R - p)
  paid : Paid fl st.timeouts st.nd st.na (token B sc.w (nblocks sc.b f) R p ds ks)

/-- How the loop ends when the receiver gets the whole file: the sender has ended successfully too - or has given
up, and then the final acknowledgement was lost (`na - 1` is the ordinal of the last acknowledgement emitted, which is
the final one, since the receiver ended with it). -/
def LFDone (fl : Faults) (f : Bytes) (st : NetState) : Prop :=
  st.r.status = .ok ∧ st.r.win.file.content = f ∧
    (st.s.status = .ok ∨
      (st.s.status = .failed ∧ st.s.retry = Gen.maxRetries ∧ fl.dropAck.contains (st.na - 1) = true))

/-- How the receiver has ended: with the complete file - then the sender's window `[B, B+m)` ends with the final block, and
the final acknowledgement is in flight unless it was lost - or by giving up, and then no acknowledgement is in flight. -/
def REnded (sc : SCfg) (fl : Faults) (f : Bytes) (st : NetState) (B m : Nat) (ks : List Nat) : Prop :=
  (st.r.status = .ok ∧ st.r.win.file.content = f ∧ B + m = nblocks sc.b f + 1 ∧
    (nblocks sc.b f ∉ ks → fl.dropAck.contains (st.na - 1) = true)) ∨
  (st.r.status = .failed ∧ st.r.retry = Gen.maxRetries ∧ ks = [] ∧ Gen.maxRetries ≤ dropsTotal fl)

/-- an acknowledgement is in flight: the receiver ended with the file -/
theorem REnded.of_cons {sc : SCfg} {fl : Faults} {f : Bytes} {st : NetState} {B m k : Nat} {ks : List Nat}
    (h : REnded sc fl f st B m (k :: ks)) :
    st.r.status = .ok ∧ st.r.win.file.content = f ∧ B + m = nblocks sc.b f + 1 ∧
      (nblocks sc.b f ∉ k :: ks → fl.dropAck.contains (st.na - 1) = true) :=
  h.resolve_right fun e => nomatch e.2.2.1

theorem REnded.not_running {sc : SCfg} {fl : Faults} {f : Bytes} {st : NetState} {B m : Nat} {ks : List Nat}
    (h : REnded sc fl f st B m ks) : st.r.status ≠ .running := by
  rcases h with ⟨e, -⟩ | ⟨e, -⟩ <;> simp [e]

/-- the receiver has ended, the sender is alone: it works through the acknowledgements still in flight and retransmits -/
structure SA (sc : SCfg) (rc : RCfg) (fl : Faults) (f : Bytes) (st : NetState) (B m : Nat) (ks : List Nat) : Prop where
  snd : SSide sc f st.s st.timeouts B m
  rend : REnded sc fl f st B m ks
  rgood : AcceptedPrefix rc.b f st.r
  acks : AckQ st.aq ks B (nblocks sc.b f)

def GaveUp (st : NetState) : Prop :=
  st.r.status = .failed ∧ st.r.retry = Gen.maxRetries ∧ st.s.status = .failed ∧ st.s.retry = Gen.maxRetries

/-- how a run ends: the receiver has the whole file (`LFDone`), or both sides have given up - after at least
`MAX_RETRIES` losses; either way what the receiver accepted is a prefix of the file's blocks -/
def Ended (rc : RCfg) (fl : Faults) (f : Bytes) (st : NetState) : Prop :=
  (LFDone fl f st ∨ (GaveUp st ∧ Gen.maxRetries ≤ dropsTotal fl)) ∧ AcceptedPrefix rc.b f st.r

/-- the sender has given up, the receiver is still waiting: nothing is in flight and nothing will be -/
structure RA (rc : RCfg) (fl : Faults) (f : Bytes) (st : NetState) : Prop where
  sfail : st.s.status = .failed
  sret : st.s.retry = Gen.maxRetries
  rrun : st.r.status = .running
  rlt : st.r.retry < Gen.maxRetries
  dq_nil : st.dq = []
  aq_nil : st.aq = []
  rgood : AcceptedPrefix rc.b f st.r
  lost : Gen.maxRetries ≤ dropsTotal fl

def Running (sc : SCfg) (rc : RCfg) (fl : Faults) (f : Bytes) (st : NetState) : Prop :=
  ∃ B m R p ds ks, GS sc rc fl f st B m R p ds ks

theorem GS.toRunning {sc : SCfg} {rc : RCfg} {fl : Faults} {f : Bytes} {st : NetState} {B m R p : Nat} {ds ks : List Nat}
    (h : GS sc rc fl f st B m R p ds ks) : Running sc rc fl f st := ⟨_, _, _, _, _, _, h⟩

inductive After (sc : SCfg) (rc : RCfg) (fl : Faults) (f : Bytes) (st : NetState) : Prop where
  | sa {B m : Nat} {ks : List Nat} (h : SA sc rc fl f st B m ks)
  | ra (h : RA rc fl f st)
  | ended (h : Ended rc fl f st)

def Ph (sc : SCfg) (rc : RCfg) (fl : Faults) (f : Bytes) (st : NetState) : Prop :=
  Running sc rc fl f st ∨ After sc rc fl f st

/-! ### the measures

Every phase has a numeric measure that each step lowers. What is in flight counts least (a DATA datagram 3, an acknowledgement 1:
delivering a DATA datagram can put two acknowledgements in flight); a retransmission puts at most `2·w` DATA datagrams in flight
and is paid for by something worth `6·w + 1`: a retry, a counted loss, or a block the window has moved past (`burst_paid`). -/

/-- a burst of the window is paid for by one unit less of anything that weighs `C > 6·w`; what `C` weighs beyond `6·w + 1` is
left over (the fresh retry budget, where the window moving on pays) -/
theorem burst_paid (drop dup : List Nat) (n B : Nat) {m w a b C : Nat} (hmw : m ≤ w) (hC : 6 * w < C) (h : a + 1 ≤ b) :
    a * C + (C - (6 * w + 1)) + 3 * (applyFaults drop dup n (List.range' B m)).length < b * C := by
  have := applyFaults_length_le drop dup n (List.range' B m)
  rw [List.length_range'] at this
  have := Nat.succ_mul a C ▸ Nat.mul_le_mul_right C h
  omega

/-- for `GS`: blocks still to be accepted, blocks the sender's window has still to move past, losses not yet answered by a
time-out, what is in flight -/
def gsμ (sc : SCfg) (fl : Faults) (f : Bytes) (st : NetState) : Nat :=
  (nblocks sc.b f - st.r.accepted.length) + (nblocks sc.b f + 1 - st.s.base) * (6 * sc.w + 1) +
    (dropsTotal fl - st.timeouts) * (6 * sc.w + 1) + 3 * st.dq.length + st.aq.length

theorem GS.gsμ_eq {sc : SCfg} {rc : RCfg} {fl : Faults} {f : Bytes} {st : NetState} {B m R p : Nat} {ds ks : List Nat}
    (h : GS sc rc fl f st B m R p ds ks) :
    gsμ sc fl f st = (nblocks sc.b f - R) + (nblocks sc.b f + 1 - B) * (6 * sc.w + 1) +
      (dropsTotal fl - st.timeouts) * (6 * sc.w + 1) + 3 * ds.length + ks.length := by
  rw [gsμ, h.rcv.wait.accepted_length, h.snd.base, h.data.eq, h.acks.eq, List.length_map, List.length_map]

/-- for `SA`: blocks the window has still to move past (each worth a whole retry budget), retries left, what is in flight -/
def saμ (sc : SCfg) (f : Bytes) (st : NetState) : Nat :=
  (nblocks sc.b f + 1 - st.s.base) * ((6 * sc.w + 1) * Gen.maxRetries + (6 * sc.w + 1)) +
    (Gen.maxRetries - st.s.retry) * (6 * sc.w + 1) + 3 * st.dq.length + st.aq.length

/-! ### a DATA datagram is delivered -/

/-- What the delivery of DATA block `k` to the running receiver (`R` blocks accepted, `p` of them buffered) leads to, from `st`
to `st'`; the cases are those of `willAck`. -/
inductive Delivered (sc : SCfg) (rc : RCfg) (fl : Faults) (f : Bytes) (st st' : NetState) (B m R p k : Nat) (ds ks : List Nat) :
    Prop where
  /-- the final block: the receiver ends -/
  | final (hk : k = R + 1) (hN : k = nblocks sc.b f)
      (h : SA sc rc fl f st' B m (ks ++ List.replicate (copies fl.dropAck fl.dupAck st.na) k))
  /-- the next block fills the receiver's window: everything buffered is flushed and acknowledged -/
  | full (hk : k = R + 1) (hN : k ≠ nblocks sc.b f) (hp : p + 1 = sc.w)
      (h : GS sc rc fl f st' B m (R + 1) 0 ds (ks ++ List.replicate (copies fl.dropAck fl.dupAck st.na) k))
  /-- the next block is buffered: no acknowledgement yet -/
  | buffered (hk : k = R + 1) (hN : k ≠ nblocks sc.b f) (hp : p + 1 ≠ sc.w) (h : GS sc rc fl f st' B m (R + 1) (p + 1) ds ks)
  /-- a duplicate of the block just buffered: ignored -/
  | dup (hk : k = R) (hp : 0 < p) (h : GS sc rc fl f st' B m R p ds ks)
  /-- anything else is out of sequence: everything buffered is flushed and the last acknowledgement repeated -/
  | resync (hk1 : k ≠ R + 1) (hk2 : ¬ (k = R ∧ 0 < p))
      (h : GS sc rc fl f st' B m R 0 ds (ks ++ List.replicate (copies fl.dropAck fl.dupAck st.na) R))

/-- **a DATA datagram reaches the running receiver** -/
theorem gs_data {sc : SCfg} {rc : RCfg} (lc : LoopCfg sc rc) {fl : Faults} {f : Bytes} {st : NetState} {B m R p k : Nat}
    {ds ks : List Nat} (h : GS sc rc fl f st B m R p (k :: ds) ks) :
    ∃ st', netStep sc rc fl st = some st' ∧ st'.timeouts = st.timeouts ∧ st'.dq = ds.map (datum sc.b f) ∧
      Delivered sc rc fl f st st' B m R p k ds ks := by
  -- both sides negotiated the same values: from here on the receiver's are the sender's
  obtain ⟨_, _, _, clean⟩ := rc
  obtain ⟨hb, hw1, hw, hrep, rfl, rfl, rfl⟩ := lc
  obtain ⟨-, hmw, htop, -⟩ := h.snd.bounds hb
  have hrel := h.rel
  have hk := h.data.mem k List.mem_cons_self
  have hdq : st.dq = (k % 65536, blk sc.b f k) :: ds.map (datum sc.b f) := h.data.eq
  rw [netStep_data sc _ fl hdq h.rcv.wait.running]
  refine ⟨_, rfl, rfl, rfl, ?_⟩
  by_cases hk1 : k = R + 1
  · subst hk1
    obtain ⟨r', out, hstep, hrecv, hnext⟩ := h.rcv.wait.inseq hb hw hrel.rltN
    rw [hstep]
    cases hnext with
    | final hN hok hfile hout =>
      dsimp only at hN
      rw [hout, emitAcks_one]
      refine .final rfl hN { snd := h.snd, rend := Or.inl ⟨hok, hfile, by omega, fun hnot => ?_⟩
                             rgood := .of_recv hrecv
                             acks := h.acks.append _ (by have := hrel.ahead; omega) (Nat.le_succ_of_le (Nat.sub_le _ _))
                               (Nat.le_of_eq hN) }
      -- no copy of the final acknowledgement in flight: it was lost
      show fl.dropAck.contains st.na = true
      refine copies_eq_zero (dup := fl.dupAck) (Nat.eq_zero_of_not_pos fun hc => hnot ?_)
      exact hN ▸ List.mem_append_right _ (List.mem_replicate.mpr ⟨Nat.ne_of_gt hc, rfl⟩)
    | full hN hp hrw hretry hout =>
      dsimp only at hN hp
      rw [hout, emitAcks_one]
      exact .full rfl hN hp
        { snd := h.snd, rcv := ⟨hrw, hretry ▸ Nat.zero_le _⟩, rel := hrel.accept (Nat.zero_le _) hk.2 (by omega), data := h.data.tail
          acks := h.acks.append _ (by have := hrel.ahead; omega) (Nat.le_succ_of_le (Nat.sub_le _ _)) (Nat.le_refl _)
          paid := h.paid.ack ds ks hk.1 }
    | buffered hN hp hrw hretry hout =>
      dsimp only at hN hp
      rw [hout, emitAcks_nil]
      exact .buffered rfl hN hp
        { snd := h.snd, rcv := ⟨hrw, hretry ▸ Nat.zero_le _⟩, rel := hrel.accept (Nat.le_refl _) hk.2 (by omega), data := h.data.tail
          acks := h.acks.mono (by omega), paid := token_buffer ds ks hN hp ▸ h.paid }
  · by_cases hk2 : k = R ∧ 0 < p
    · obtain ⟨rfl, hp⟩ := hk2
      rw [h.rcv.wait.dup hp, emitAcks_nil]
      exact .dup rfl hp { h with data := h.data.tail, paid := token_dup ds ks hp ▸ h.paid }
    · have hahead := hrel.ahead
      have hrtop := hrel.rtop
      obtain ⟨hstep, hrw⟩ := h.rcv.wait.reack (blk sc.b f k) hk1 hk2 (by omega) (by omega)
      rw [hstep, emitAcks_one]
      refine .resync hk1 hk2 { snd := h.snd, rcv := ⟨hrw, h.rcv.retry⟩, rel := hrel.reack, data := h.data.tail
                               acks := h.acks.append _ (by omega) (Nat.sub_le _ _) (Nat.le_refl _), paid := ?_ }
      by_cases hBR : B ≤ R
      · exact h.paid.ack ds ks hBR
      · -- an acknowledgement for a block before the window: the token is what it was
        refine h.paid.mono (Nat.le_refl _) (Nat.le_succ _) fun ht => ?_
        rwa [token_append, show decide (B ≤ R) = false by simpa using hBR, Bool.and_false, Bool.or_false,
          ← token_skip ds ks hk1 hk2 hBR]

/-! ### an acknowledgement is delivered -/

/-- **an acknowledgement inside the window reaches the waiting sender**: the window slides past it, is refilled and
sent whole -/
theorem gs_ack_in {sc : SCfg} {rc : RCfg} (lc : LoopCfg sc rc) {fl : Faults} {f : Bytes} {st : NetState} {B m R p k : Nat}
    {ks : List Nat} (h : GS sc rc fl f st B m R p [] (k :: ks)) (hin : B ≤ k) :
    ∃ st' m', netStep sc rc fl st = some st' ∧ st'.timeouts = st.timeouts ∧
      GS sc rc fl f st' (k + 1) m' R p (applyFaults fl.dropData fl.dupData st.nd (List.range' (k + 1) m')) ks := by
  have hrel := h.rel
  have hk := h.acks.mem k List.mem_cons_self
  have hkR : k + p ≤ R := by have := hrel.ple; omega
  obtain ⟨hkN, -⟩ | ⟨-, t, m', hstep, hside, -, hgrow⟩ := h.snd.ack lc.hb lc.hw hin (by have := hrel.rtop; omega)
  · have := hrel.rltN; omega
  obtain ⟨hm0', hmw', -, hfull'⟩ := hside.bounds lc.hb
  have hpw : p < sc.w := lc.rw ▸ h.rcv.wait.pend_lt
  rw [netStep_ack sc rc fl h.data.eq h.acks.eq h.snd.wait.running, hstep, hside.emit lc.hrep]
  exact ⟨_, m', rfl, rfl,
    { snd := hside, rcv := h.rcv, rel := hrel.slide hkR hgrow, data := DataQ.burst ..
      acks := h.acks.tail (Nat.le_refl _)
      paid := Paid.burst h.paid.le ks hm0' hmw' hfull' (hrel.slide hkR hgrow) hpw }⟩

/-- **a stale acknowledgement reaches the waiting sender**: nothing happens - provided the retransmission interval is
positive (with interval 0 every stale acknowledgement would trigger a retransmission of the window) -/
theorem gs_ack_stale {sc : SCfg} {rc : RCfg} (lc : LoopCfgT sc rc) {fl : Faults} {f : Bytes} {st : NetState} {B m R p k : Nat}
    {ks : List Nat} (h : GS sc rc fl f st B m R p [] (k :: ks)) (hin : ¬ B ≤ k) :
    ∃ st', netStep sc rc fl st = some st' ∧ st'.timeouts = st.timeouts ∧ GS sc rc fl f st' B m R p [] ks := by
  have hk := h.acks.mem k List.mem_cons_self
  rw [netStep_ack sc rc fl h.data.eq h.acks.eq h.snd.wait.running, h.snd.wait.ack_before lc.ht lc.hw h.snd.base (by omega), emitData_nil]
  refine ⟨_, rfl, rfl, { h with data := ⟨rfl, fun _ h => nomatch h⟩, acks := h.acks.tail hk.1,
                                paid := h.paid.mono (Nat.le_refl _) (Nat.le_refl _) fun htok => ?_ }⟩
  simpa [token, hin] using htok

/-! ### nothing in flight -/

/-- **nothing in flight**: no token, so the loss that caused the silence has been counted; both sides time out, and the
sender sends its whole window again - unless one of them has used up its retry budget, which takes `MAX_RETRIES`
counted losses -/
theorem gs_quiet {sc : SCfg} {rc : RCfg} (lc : LoopCfg sc rc) {fl : Faults} {f : Bytes} {st : NetState} {B m R p : Nat}
    (h : GS sc rc fl f st B m R p [] []) :
    st.timeouts < dropsTotal fl ∧ ∃ st', netStep sc rc fl st = some st' ∧ st'.timeouts = st.timeouts + 1 ∧
      (GS sc rc fl f st' B m R p (applyFaults fl.dropData fl.dupData st.nd (List.range' B m)) [] ∨ After sc rc fl f st') := by
  obtain ⟨hm0, hmw, -, hfull⟩ := h.snd.bounds lc.hb
  have hpw : p < sc.w := lc.rw ▸ h.rcv.wait.pend_lt
  have hdebt : st.timeouts < dropsSoFar fl st.nd st.na := h.paid.lt rfl
  have hT : st.timeouts < dropsTotal fl := Nat.lt_of_lt_of_le hdebt (dropsSoFar_le_total fl st.nd st.na)
  have hsle := h.snd.retry
  have hrle := h.rcv.retry
  have hgood : AcceptedPrefix rc.b f st.r := h.rcv.wait.acceptedPrefix
  rw [netStep_quiet sc rc fl h.data.eq h.acks.eq h.snd.wait.running h.rcv.wait.running]
  refine ⟨hT, _, rfl, rfl, ?_⟩
  by_cases hrs : st.s.retry + 1 = Gen.maxRetries
  · have hlost : Gen.maxRetries ≤ dropsTotal fl := by omega
    rw [sStep_giveup _ h.snd.wait.running hrs, emitData_nil]
    by_cases hrr : st.r.retry + 1 = Gen.maxRetries
    · rw [rStep_giveup rc h.rcv.wait.running hrr]
      exact Or.inr (.ended ⟨Or.inr ⟨⟨rfl, rfl, rfl, rfl⟩, hlost⟩, hgood⟩)
    · rw [(h.rcv.wait.timeout hrr).1]
      have := h.rcv.wait.retry_lt
      exact Or.inr (.ra { sfail := rfl, sret := rfl, rrun := h.rcv.wait.running, rlt := by show st.r.retry + 1 < _; omega
                          dq_nil := rfl, aq_nil := rfl, rgood := hgood, lost := hlost })
  · obtain ⟨hstep, hside⟩ := h.snd.timeout hrs
    rw [hstep, h.snd.emit lc.hrep]
    by_cases hrr : st.r.retry + 1 = Gen.maxRetries
    · rw [rStep_giveup rc h.rcv.wait.running hrr]
      exact Or.inr (.sa { snd := hside, rend := Or.inr ⟨rfl, rfl, rfl, by omega⟩, rgood := hgood, acks := AckQ.nil _ _ })
    · obtain ⟨hrstep, hrw⟩ := h.rcv.wait.timeout hrr
      rw [hrstep]
      exact Or.inl { snd := hside, rcv := ⟨hrw, Nat.succ_le_succ hrle⟩
                     rel := h.rel, data := DataQ.burst .., acks := AckQ.nil _ _
                     paid := Paid.burst (tmo := st.timeouts + 1) (nd := st.nd) (na := st.na) hdebt [] hm0 hmw hfull h.rel hpw }

/-! ### after the receiver has ended -/

/-- **one step of the sender alone**: DATA still in flight is discarded; the sender works through the acknowledgements in
flight and, when there is none, retransmits until the final one arrives or its budget is used up - which, if the
receiver has the file, happens only if the final acknowledgement was lost -/
theorem sa_step {sc : SCfg} {rc : RCfg} (lc : LoopCfgT sc rc) {fl : Faults} {f : Bytes} {st : NetState} {B m : Nat}
    {ks : List Nat} (h : SA sc rc fl f st B m ks) :
    ∃ st', netStep sc rc fl st = some st' ∧
      (Ended rc fl f st' ∨ ((∃ B' m' ks', SA sc rc fl f st' B' m' ks') ∧ saμ sc f st' < saμ sc f st)) := by
  obtain ⟨hm0, hmw, -, -⟩ := h.snd.bounds lc.hb
  have hretry := h.snd.wait.retry_lt
  have hrnr := h.rend.not_running
  cases hdq : st.dq with
  | cons x rest =>
    refine ⟨_, netStep_data_late sc rc fl hdq hrnr, Or.inr ⟨⟨B, m, ks, { h with }⟩, ?_⟩⟩
    simp only [saμ, hdq, List.length_cons]
    omega
  | nil =>
    cases ks with
    | cons k ks =>
      -- an acknowledgement in flight: the receiver has the file
      obtain ⟨hrok, hrfile, hstop, hlost⟩ := h.rend.of_cons
      have hk := h.acks.mem k List.mem_cons_self
      have haq : st.aq.length = ks.length + 1 := by rw [h.acks.eq]; simp
      -- unless it is the final one, what was known of the final acknowledgement stays known without it
      have hlost' : k ≠ nblocks sc.b f → nblocks sc.b f ∉ ks → fl.dropAck.contains (st.na - 1) = true :=
        fun hne hnot => hlost fun hmem => (List.mem_cons.mp hmem).elim (fun e => hne e.symm) hnot
      rw [netStep_ack sc rc fl hdq h.acks.eq h.snd.wait.running]
      refine ⟨_, rfl, ?_⟩
      by_cases hin : B ≤ k
      · obtain ⟨-, t, hstep, hok⟩ | ⟨hkN, t, m', hstep, hside, hretry', hgrow⟩ := h.snd.ack lc.hb lc.hw hin (by omega)
        · rw [hstep, emitData_nil]
          exact Or.inl ⟨Or.inl ⟨hrok, hrfile, Or.inl hok⟩, h.rgood⟩
        · -- the sender moves on to a later window, which ends with the final block like this one
          obtain ⟨-, hmw', htop', -⟩ := hside.bounds lc.hb
          rw [hstep, hside.emit lc.hrep]
          refine Or.inr ⟨⟨k + 1, m', ks,
            { snd := hside, rgood := h.rgood, acks := h.acks.tail (Nat.le_refl _)
              rend := Or.inl ⟨hrok, hrfile, by omega, hlost' (by omega)⟩ }⟩, ?_⟩
          -- the window has moved on: that pays for a fresh retry budget and the new burst
          have := burst_paid fl.dropData fl.dupData st.nd (k + 1) (a := nblocks sc.b f + 1 - (k + 1))
            (b := nblocks sc.b f + 1 - B) (C := (6 * sc.w + 1) * Gen.maxRetries + (6 * sc.w + 1)) hmw' (by omega) (by omega)
          simp only [saμ, hside.base, hretry', h.snd.base, haq, hdq, List.length_nil, List.nil_append, List.length_map, Nat.sub_zero]
          -- `omega` has to see the same product on both sides
          rw [Nat.mul_comm Gen.maxRetries]
          omega
      · rw [h.snd.wait.ack_before lc.ht lc.hw h.snd.base (by omega), emitData_nil]
        refine Or.inr ⟨⟨B, m, ks, { h with acks := h.acks.tail hk.1
                                           rend := Or.inl ⟨hrok, hrfile, hstop, hlost' (by omega)⟩ }⟩, ?_⟩
        simp only [saμ, haq, List.length_map, hdq]
        omega
    | nil =>
      rw [netStep_quiet_sender sc rc fl hdq h.acks.eq h.snd.wait.running hrnr]
      refine ⟨_, rfl, ?_⟩
      by_cases hr : st.s.retry + 1 = Gen.maxRetries
      · -- the budget is used up: if the receiver has the file, the final acknowledgement had been lost
        rw [sStep_giveup _ h.snd.wait.running hr, emitData_nil]
        obtain ⟨hrok, hrfile, -, hlost⟩ | ⟨hrf, hrr, -, hl⟩ := h.rend
        · exact Or.inl ⟨Or.inl ⟨hrok, hrfile, Or.inr ⟨rfl, rfl, hlost fun hmem => nomatch hmem⟩⟩, h.rgood⟩
        · exact Or.inl ⟨Or.inr ⟨⟨hrf, hrr, rfl, rfl⟩, hl⟩, h.rgood⟩
      · obtain ⟨hstep, hside⟩ := h.snd.timeout hr
        rw [hstep, h.snd.emit lc.hrep]
        refine Or.inr ⟨⟨B, m, [], { h with snd := hside, acks := AckQ.nil _ _ }⟩, ?_⟩
        -- one retry less pays for the burst
        have := burst_paid fl.dropData fl.dupData st.nd B (a := Gen.maxRetries - (st.s.retry + 1))
          (b := Gen.maxRetries - st.s.retry) (C := 6 * sc.w + 1) hmw (Nat.lt_succ_self _) (by omega)
        simp only [saμ, hdq, h.acks.eq, List.nil_append, List.length_map, List.length_nil, List.map_nil]
        omega

/-! ### after the sender has given up -/

theorem ra_step (sc : SCfg) {rc : RCfg} {fl : Faults} {f : Bytes} {st : NetState} (h : RA rc fl f st) :
    ∃ st', netStep sc rc fl st = some st' ∧
      (Ended rc fl f st' ∨ (RA rc fl f st' ∧ Gen.maxRetries - st'.r.retry < Gen.maxRetries - st.r.retry)) := by
  have := h.rlt
  rw [netStep_quiet_receiver sc rc fl h.dq_nil h.aq_nil (Or.inr h.sfail) h.rrun, rStep_fail rc h.rrun]
  refine ⟨_, rfl, ?_⟩
  by_cases hr : st.r.retry + 1 = Gen.maxRetries
  · rw [if_pos hr]
    exact Or.inl ⟨Or.inr ⟨⟨rfl, hr, h.sfail, h.sret⟩, h.lost⟩, h.rgood⟩
  · rw [if_neg hr]
    exact Or.inr ⟨{ h with rlt := by show st.r.retry + 1 < _; omega, dq_nil := rfl, aq_nil := rfl },
      by show _ - (st.r.retry + 1) < _; omega⟩

/-! ### every step keeps its phase with a smaller measure, or moves on to a later one -/

theorem gs_step {sc : SCfg} {rc : RCfg} (lc : LoopCfgT sc rc) {fl : Faults} {f : Bytes} {st : NetState} {B m R p : Nat}
    {ds ks : List Nat} (h : GS sc rc fl f st B m R p ds ks) :
    ∃ st', netStep sc rc fl st = some st' ∧
      (After sc rc fl f st' ∨ (Running sc rc fl f st' ∧ gsμ sc fl f st' < gsμ sc fl f st)) := by
  have hRN := h.rel.rltN
  have hμ := h.gsμ_eq
  cases ds with
  | cons k ds =>
    obtain ⟨st', hs, ht, -, hcase⟩ := gs_data lc.toLoopCfg h
    have hc := copies_le fl.dropAck fl.dupAck st.na
    refine ⟨st', hs, ?_⟩
    -- a DATA datagram less in flight (worth 3), at most two acknowledgements more
    have hlt : ∀ {R' p' : Nat} {ks' : List Nat}, GS sc rc fl f st' B m R' p' ds ks' → R ≤ R' → ks'.length ≤ ks.length + 2 →
        Running sc rc fl f st' ∧ gsμ sc fl f st' < gsμ sc fl f st := fun h' hR hk =>
      ⟨h'.toRunning, by rw [h'.gsμ_eq, hμ, ht, List.length_cons]; omega⟩
    have hks : ∀ x, (ks ++ List.replicate (copies fl.dropAck fl.dupAck st.na) x).length ≤ ks.length + 2 := by simp; omega
    cases hcase with
    | final _ _ h' => exact Or.inl (.sa h')
    | full _ _ _ h' => exact Or.inr (hlt h' (Nat.le_succ _) (hks _))
    | buffered _ _ _ h' => exact Or.inr (hlt h' (Nat.le_succ _) (Nat.le_add_right _ _))
    | dup _ _ h' => exact Or.inr (hlt h' (Nat.le_refl _) (Nat.le_add_right _ _))
    | resync _ _ h' => exact Or.inr (hlt h' (Nat.le_refl _) (hks _))
  | nil =>
    cases ks with
    | cons k ks =>
      have hk := h.acks.mem k List.mem_cons_self
      by_cases hin : B ≤ k
      · -- a new window: at most `2·w` DATA datagrams for the price of the block the window has moved past
        obtain ⟨st', m', hs, ht, h'⟩ := gs_ack_in lc.toLoopCfg h hin
        refine ⟨st', hs, Or.inr ⟨h'.toRunning, ?_⟩⟩
        have := burst_paid fl.dropData fl.dupData st.nd (k + 1) (a := nblocks sc.b f + 1 - (k + 1))
          (b := nblocks sc.b f + 1 - B) (C := 6 * sc.w + 1) (h'.snd.bounds lc.hb).2.1 (Nat.lt_succ_self _) (by omega)
        rw [h'.gsμ_eq, hμ, ht, List.length_nil, List.length_cons]
        omega
      · obtain ⟨st', hs, ht, h'⟩ := gs_ack_stale lc h hin
        exact ⟨st', hs, Or.inr ⟨h'.toRunning, by rw [h'.gsμ_eq, hμ, ht, List.length_cons]; omega⟩⟩
    | nil =>
      obtain ⟨hT, st', hs, ht, hcase⟩ := gs_quiet lc.toLoopCfg h
      refine ⟨st', hs, hcase.symm.imp_right fun h' => ⟨h'.toRunning, ?_⟩⟩
      -- a retransmission: at most `2·w` DATA datagrams for the price of one counted loss
      have := burst_paid fl.dropData fl.dupData st.nd B (a := dropsTotal fl - (st.timeouts + 1))
        (b := dropsTotal fl - st.timeouts) (C := 6 * sc.w + 1) (h.snd.bounds lc.hb).2.1 (Nat.lt_succ_self _) (by omega)
      rw [h'.gsμ_eq, hμ, ht, List.length_nil]
      omega

theorem Ended.not_running {rc : RCfg} {fl : Faults} {f : Bytes} {st : NetState} (h : Ended rc fl f st) :
    (st.s.status = .ok ∨ st.s.status = .failed) ∧ st.r.status ≠ .running := by
  rcases h.1 with ⟨hr, -, hs⟩ | ⟨⟨hr, -, hs, -⟩, -⟩
  · exact ⟨hs.imp_right And.left, by simp [hr]⟩
  · exact ⟨Or.inr hs, by simp [hr]⟩

theorem ph_step {sc : SCfg} {rc : RCfg} (lc : LoopCfgT sc rc) {fl : Faults} {f : Bytes} (st st' : NetState)
    (h : Ph sc rc fl f st) (hs : netStep sc rc fl st = some st') : Ph sc rc fl f st' := by
  rcases h with ⟨_, _, _, _, _, _, h⟩ | h | h | h
  · obtain ⟨_, h1, h2⟩ := gs_step lc h
    cases h1.symm.trans hs
    exact h2.symm.imp_left And.left
  · obtain ⟨_, h1, h2⟩ := sa_step lc h
    cases h1.symm.trans hs
    exact Or.inr (h2.elim .ended fun ⟨⟨_, _, _, h⟩, _⟩ => .sa h)
  · obtain ⟨_, h1, h2⟩ := ra_step sc h
    cases h1.symm.trans hs
    exact Or.inr (h2.elim .ended fun h => .ra h.1)
  · obtain ⟨e1, e2, e3⟩ := netStep_ended sc rc fl h.not_running.1 h.not_running.2 hs
    refine Or.inr (.ended ?_)
    unfold Ended LFDone GaveUp AcceptedPrefix at h ⊢
    rwa [e1, e2, e3]

/-- every phase runs to an end: `GS` into one of the others by `gsμ`, each of those to `Ended` by its own measure -/
theorem ph_ends {sc : SCfg} {rc : RCfg} (lc : LoopCfgT sc rc) {fl : Faults} {f : Bytes} (st : NetState)
    (h : Ph sc rc fl f st) : ∃ fuel, Ended rc fl f (netRun sc rc fl fuel st) := by
  have hafter : ∀ st, After sc rc fl f st → ∃ fuel, Ended rc fl f (netRun sc rc fl fuel st) := by
    intro st h
    cases h with
    | sa h =>
      exact netRun_reaches (P := fun st => ∃ B m ks, SA sc rc fl f st B m ks) (saμ sc f)
        (fun _ ⟨_, _, _, h⟩ => sa_step lc h) st ⟨_, _, _, h⟩
    | ra h => exact netRun_reaches (fun st => Gen.maxRetries - st.r.retry) (fun _ h => ra_step sc h) st h
    | ended h => exact ⟨0, h⟩
  rcases h with h | h
  · exact netRun_trans (netRun_reaches (gsμ sc fl f) (fun _ ⟨_, _, _, _, _, _, h⟩ => gs_step lc h) st h) hafter
  · exact hafter st h

theorem gs_init {sc : SCfg} {rc : RCfg} (lc : LoopCfg sc rc) (fl : Faults) (f : Bytes) :
    ∃ m, GS sc rc fl f (netInit sc rc fl f) 1 m 0 0 (applyFaults fl.dropData fl.dupData 0 (List.range' 1 m)) [] := by
  obtain ⟨t, hinit, hwait, hbase, hretry⟩ := SWait.init lc.hb lc.hw1 lc.hw f
  obtain ⟨hm0, hmw, -, hfull⟩ := hwait.bounds lc.hb
  have hrel : InWindow 1 t.win.elems.length 0 0 (nblocks sc.b f) := ⟨Nat.le_refl _, Nat.le_refl _, by omega, nblocks_pos _ _⟩
  rw [netInit, hinit, emitData_window hwait.inv lc.hrep hbase rfl]
  exact ⟨_, { snd := ⟨hwait, hbase, rfl, Nat.le_of_eq hretry⟩, rcv := ⟨RWait.init rc f (lc.rw ▸ lc.hw1), Nat.le_refl _⟩
              rel := hrel, data := DataQ.burst .., acks := AckQ.nil _ _
              paid := Paid.burst (Nat.zero_le _) [] hm0 hmw (hbase ▸ hfull) hrel (by have := lc.hw1; omega) }⟩

/-! ### the theorems -/

/-- **the closed loop under every fault schedule**: it runs to an end, at which the receiver has ended successfully
with a byte-identical copy (the sender successfully too, or given up because the final acknowledgement was lost), or
both sides have given up after `MAX_RETRIES` consecutive failed attempts - which takes `MAX_RETRIES` losses -/
theorem closed_loop_end (sc : SCfg) (rc : RCfg) (lc : LoopCfgT sc rc) (fl : Faults) (f : Bytes) :
    ∃ fuel, Ended rc fl f (netRun sc rc fl fuel (netInit sc rc fl f)) :=
  (gs_init lc.toLoopCfg fl f).elim fun _ h => ph_ends lc _ (Or.inl h.toRunning)

theorem closed_loop_phase (sc : SCfg) (rc : RCfg) (lc : LoopCfgT sc rc) (fl : Faults) (f : Bytes) (fuel : Nat) :
    Ph sc rc fl f (netRun sc rc fl fuel (netInit sc rc fl f)) :=
  (gs_init lc.toLoopCfg fl f).elim fun _ h => netRun_inv (ph_step lc) fuel _ (Or.inl h.toRunning)

/-- What every phase says about success (this is all the property theorems use of `Ph`): the receiver reports it only
over a byte-identical file, the sender only after the receiver; and what has been accepted is always blocks `1..j`. -/
theorem Ph.safe {sc : SCfg} {rc : RCfg} {fl : Faults} {f : Bytes} {st : NetState} (h : Ph sc rc fl f st) :
    (st.r.status = .ok → st.r.win.file.content = f) ∧ (st.s.status = .ok → st.r.status = .ok) ∧ AcceptedPrefix rc.b f st.r := by
  rcases h with ⟨_, _, _, _, _, _, h⟩ | h | h | h
  · exact ⟨fun hk => (nomatch h.rcv.wait.running.symm.trans hk), fun hk => (nomatch h.snd.wait.running.symm.trans hk),
      h.rcv.wait.acceptedPrefix⟩
  · refine ⟨fun hk => ?_, fun hk => (nomatch h.snd.wait.running.symm.trans hk), h.rgood⟩
    obtain ⟨-, hfile, -⟩ | ⟨hr, -⟩ := h.rend
    · exact hfile
    · exact nomatch hr.symm.trans hk
  · exact ⟨fun hk => (nomatch h.rrun.symm.trans hk), fun hk => (nomatch h.sfail.symm.trans hk), h.rgood⟩
  · rcases h.1 with ⟨hr, hfile, -⟩ | ⟨⟨hr, -, hs, -⟩, -⟩
    · exact ⟨fun _ => hfile, fun _ => hr, h.2⟩
    · exact ⟨fun hk => (nomatch hr.symm.trans hk), fun hk => (nomatch hs.symm.trans hk), h.2⟩

def TotalDone (f : Bytes) (st : NetState) : Prop :=
  (st.r.status = .ok ∧ st.r.win.file.content = f ∧
      (st.s.status = .ok ∨ (st.s.status = .failed ∧ st.s.retry = Gen.maxRetries))) ∨
  (st.r.status = .failed ∧ st.r.retry = Gen.maxRetries ∧ st.s.status = .failed ∧ st.s.retry = Gen.maxRetries)

/-- `closed_loop_end` without the count of losses: the end is one of these two, there is no third outcome -/
theorem closed_loop_total (sc : SCfg) (rc : RCfg) (lc : LoopCfgT sc rc) (fl : Faults) (f : Bytes) :
    ∃ fuel, TotalDone f (netRun sc rc fl fuel (netInit sc rc fl f)) := by
  obtain ⟨fuel, h, -⟩ := closed_loop_end sc rc lc fl f
  exact ⟨fuel, h.elim (fun ⟨h1, h2, h3⟩ => Or.inl ⟨h1, h2, h3.imp_right fun h => ⟨h.1, h.2.1⟩⟩) fun h => Or.inr h.1⟩

/-- `closed_loop_end` under a schedule with fewer than `MAX_RETRIES` losses: the second way to end is excluded -/
theorem loss_tolerance (sc : SCfg) (rc : RCfg) (lc : LoopCfgT sc rc) (fl : Faults)
    (hT : fl.dropData.length + fl.dropAck.length < Gen.maxRetries) (f : Bytes) :
    ∃ fuel, LFDone fl f (netRun sc rc fl fuel (netInit sc rc fl f)) := by
  obtain ⟨fuel, h, -⟩ := closed_loop_end sc rc lc fl f
  exact ⟨fuel, h.resolve_right fun h => Nat.not_le_of_lt hT h.2⟩

/-- ... and when none of the losses is an acknowledgement the sender ends successfully too -/
theorem loss_tolerance_acks_kept (sc : SCfg) (rc : RCfg) (lc : LoopCfgT sc rc) (fl : Faults) (hack : fl.dropAck = [])
    (hT : fl.dropData.length < Gen.maxRetries) (f : Bytes) :
    ∃ fuel, (netRun sc rc fl fuel (netInit sc rc fl f)).s.status = .ok ∧
      (netRun sc rc fl fuel (netInit sc rc fl f)).r.status = .ok ∧
      (netRun sc rc fl fuel (netInit sc rc fl f)).r.win.file.content = f := by
  obtain ⟨fuel, h1, h2, h3⟩ := loss_tolerance sc rc lc fl (by rw [hack]; exact hT) f
  refine ⟨fuel, h3.resolve_right fun ⟨_, _, h4⟩ => ?_, h1, h2⟩
  rw [hack] at h4
  cases h4

end Tftp
