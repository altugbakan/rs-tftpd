import Tftp.Lemmas.Net
/-!
Safety of the closed loop whatever the network does (transfers of at most 65535 blocks): everything in flight is a
block of the file, so the receiver is fed by a conformant sender (`RReachFrom`). No assumption on the repeat
count or the retransmission interval.
-/
namespace Tftp

/-- a DATA datagram in flight is a block of the file -/
def GoodDatum (b : Nat) (f : Bytes) (x : Nat × Bytes) : Prop :=
  ∃ k, 1 ≤ k ∧ k ≤ nblocks b f ∧ x = datum b f k

theorem mem_dataOf (ps : List Packet) (x : Nat × Bytes) (h : x ∈ dataOf ps) : Packet.data x.1 x.2 ∈ ps := by
  induction ps with
  | nil => cases h
  | cons p ps ih =>
    cases p with
    | data n d =>
      rcases List.mem_cons.mp h with rfl | h
      · exact List.mem_cons_self
      · exact List.mem_cons_of_mem _ (ih h)
    | _ => exact List.mem_cons_of_mem _ (ih h)

structure SafeSt (sc : SCfg) (rc : RCfg) (f : Bytes) (st : NetState) : Prop where
  sinv : SInv sc f st.s
  dq_good : ∀ x ∈ st.dq, GoodDatum sc.b f x
  rreach : RReachFrom rc f st.r

theorem emitData_safe (sc : SCfg) (fl : Faults) (f : Bytes) (st : NetState) (out : List Packet)
    (hdq : ∀ x ∈ st.dq, GoodDatum sc.b f x) (hout : ∀ p ∈ out, GoodPkt sc f p) :
    ∀ x ∈ (emitData fl st out).dq, GoodDatum sc.b f x := by
  intro x hx
  rcases List.mem_append.mp hx with hx | hx
  · exact hdq x hx
  · rcases hout _ (mem_dataOf out x (mem_applyFaults _ _ _ _ x hx)) with ⟨k, h1, h2, h3⟩ | h3
    · exact ⟨k, h1, h2, Prod.ext (Packet.data.inj h3).1 (Packet.data.inj h3).2⟩
    · cases h3

theorem netStep_safe (sc : SCfg) (rc : RCfg) (hb : 0 < sc.b) (hw : sc.w < 65536) (hrb : rc.b = sc.b) (fl : Faults)
    (f : Bytes) (st st' : NetState) (h : SafeSt sc rc f st) (hs : netStep sc rc fl st = some st') :
    SafeSt sc rc f st' := by
  -- whatever the sender is told, its state keeps the invariant and what it emits is good
  have hsender : ∀ (ev : SEv) (dt : Nat) (st0 : NetState), st0.r = st.r → (∀ x ∈ st0.dq, GoodDatum sc.b f x) →
      SafeSt sc rc f (emitData fl { st0 with s := (sStep sc st.s ev dt).1 } (sStep sc st.s ev dt).2) := by
    intro ev dt st0 hr hdq
    obtain ⟨h1, -, h3⟩ := step_good hb hw h.sinv ev dt
    exact ⟨h1, emitData_safe sc fl f _ _ hdq fun p hp => (h3 p hp).elim GoodData.toPkt Or.inr, hr ▸ h.rreach⟩
  have hfail : RReachFrom rc f (rStep rc st.r .fail).1 := .step _ .fail h.rreach (fun _ _ h => nomatch h)
  cases hdq : st.dq with
  | cons x rest =>
    obtain ⟨n, d⟩ := x
    have hrest : ∀ y ∈ rest, GoodDatum sc.b f y := fun y hy => h.dq_good y (hdq ▸ List.mem_cons_of_mem _ hy)
    rw [netStep_data_eq sc rc fl hdq] at hs
    cases hs
    split
    · -- the datagram in flight is a block of the file: the receiver is fed by a conformant sender
      refine ⟨h.sinv, hrest, .step _ _ h.rreach ?_⟩
      rintro _ _ ⟨rfl, rfl⟩
      obtain ⟨k, hk1, hk2, hk3⟩ := h.dq_good (n, d) (hdq ▸ List.mem_cons_self)
      exact ⟨k, hk1, hrb ▸ hk2, (Prod.ext_iff.mp hk3).1, hrb ▸ (Prod.ext_iff.mp hk3).2⟩
    · exact ⟨h.sinv, hrest, h.rreach⟩
  | nil =>
    cases haq : st.aq with
    | cons a arest =>
      rw [netStep_ack_eq sc rc fl hdq haq] at hs
      cases hs
      split
      · exact hsender _ _ { st with dq := [], aq := arest } rfl (fun _ h => nomatch h)
      · exact ⟨h.sinv, fun _ h => (nomatch h), h.rreach⟩
    | nil =>
      rw [netStep_quiet_eq sc rc fl hdq haq] at hs
      split at hs
      · cases hs
      · cases hs
        have hr : RReachFrom rc f (if receiverRunning st.r = true then (rStep rc st.r .fail).1 else st.r) := by
          split
          · exact hfail
          · exact h.rreach
        split
        · have := hsender .fail sc.timeout { st with dq := [], aq := [], timeouts := st.timeouts + 1 } rfl (fun _ h => nomatch h)
          exact ⟨this.sinv, this.dq_good, hr⟩
        · exact ⟨h.sinv, fun _ h => (nomatch h), hr⟩

theorem closed_loop_safety (sc : SCfg) (rc : RCfg) (hb : 0 < sc.b) (hw1 : 1 ≤ sc.w) (hw : sc.w < 65536)
    (hrb : rc.b = sc.b) (hrw : rc.w = sc.w) (fl : Faults) (f : Bytes) (hN : nblocks sc.b f ≤ 65535) (fuel : Nat) :
    (netRun sc rc fl fuel (netInit sc rc fl f)).r.received =
        blocksUpTo sc.b f (netRun sc rc fl fuel (netInit sc rc fl f)).r.received.length ∧
    ((netRun sc rc fl fuel (netInit sc rc fl f)).r.status = .ok →
        (netRun sc rc fl fuel (netInit sc rc fl f)).r.win.file.content = f) := by
  obtain ⟨h0, h1⟩ := init_good hb hw f false
  have hinit : SafeSt sc rc f (netInit sc rc fl f) :=
    ⟨h0, emitData_safe sc fl f _ _ (fun _ h => nomatch h) h1, RReachFrom.init⟩
  have hfin := netRun_inv (netStep_safe sc rc hb hw hrb fl f) fuel _ hinit
  have hc := hfin.rreach.prefix (hrb ▸ hb) (hrw ▸ hw1) (hrw ▸ hw) (hrb ▸ hN)
  rw [hrb] at hc
  exact ⟨hc.1, hc.2.2⟩

end Tftp
