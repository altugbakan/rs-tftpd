import Tftp.Lemmas.Server
/-!
# C06 — Access policy: read-only, no-overwrite and not-found are refused without effect

`handleDatagram` is everything the listener does for one datagram. A `Reaction` with
`worker = none` starts nothing: no file is opened, created, truncated or removed (all file-system
effects of the server happen inside workers).
-/
namespace Tftp

/-- the decoded request, as the listener sees it (after truncation to its receive buffer) -/
def decoded (cfg : SrvCfg) (largest : Nat) (dgram : Bytes) : Outcome Packet :=
  decode (dgram.take ((if cfg.singlePort then largest else Gen.maxRequestPacketSize) + 4))

/-- **read-only**: every write request is refused with ERROR 2 from the listening socket; nothing starts -/
theorem c06_read_only (cfg : SrvCfg) (fs : Fs) (largest : Nat) (dgram : Bytes) (f m : Bytes)
    (os : List TransferOption) (hro : cfg.readOnly = true) (hd : decoded cfg largest dgram = .ok (.wrq f m os)) :
    handleDatagram cfg fs largest dgram = { reply := some (.listener, .error .accessViolation []), worker := none } := by
  unfold decoded at hd
  unfold handleDatagram
  simp only [hd, hro, ↓reduceIte, errorReply]

/-- **no overwrite**: a write request naming something that exists is refused with ERROR 6; nothing starts,
so the existing file stays byte-identical -/
theorem c06_no_overwrite (cfg : SrvCfg) (fs : Fs) (name : Bytes) (os : List TransferOption)
    (how : cfg.overwrite = false)
    (hvalid : validateFilePath (joinPath cfg.recvDir (convertFilePath name)) = true)
    (hex : (fs.stat (joinPath cfg.recvDir (convertFilePath name))).isSome = true) :
    handleWrq cfg fs name os = { reply := some (.listener, .error .fileExists []), worker := none } := by
  simp only [handleWrq, checkFileExists_of_present hvalid hex, how, Bool.false_eq_true, ↓reduceIte, errorReply]

/-- **not found**: a read request for a valid but missing path is refused with ERROR 1 -/
theorem c06_not_found (cfg : SrvCfg) (fs : Fs) (name : Bytes) (os : List TransferOption)
    (hvalid : validateFilePath (joinPath cfg.sendDir (convertFilePath name)) = true)
    (hmiss : fs.stat (joinPath cfg.sendDir (convertFilePath name)) = none) :
    handleRrq cfg fs name os = { reply := some (.listener, .error .fileNotFound []), worker := none } := by
  simp only [handleRrq, checkFileExists_of_missing hvalid hmiss, errorReply]

/-- **refusals come from the listening port and start no transfer**: whenever the reaction to a datagram
is an ERROR packet, it is sent by the listener and there is no worker -/
theorem c06_refusals_from_listener (cfg : SrvCfg) (fs : Fs) (largest : Nat) (dgram : Bytes) (src : Src)
    (code : ErrorCode) (msg : Bytes)
    (h : (handleDatagram cfg fs largest dgram).reply = some (src, .error code msg)) :
    src = .listener ∧ (handleDatagram cfg fs largest dgram).worker = none := by
  rcases handleDatagram_cases cfg fs largest dgram with
    ⟨_, e⟩ | e | ⟨_, _, _, _, -, -, e⟩ | ⟨_, _, _, _, -, -, e⟩ <;> rw [e] at h ⊢
  · cases h; exact ⟨rfl, rfl⟩
  · cases h
  -- an accepted request is answered from the transfer's socket, with OACK, ACK 0 or nothing
  · dsimp only at h; split at h <;> cases h
  · dsimp only at h; split at h <;> cases h

/-- **overwrite replaces the old content entirely**: an accepted write request starts a receive worker,
and a receive worker starts from `File::create` — an empty file — so by C02 (`c02_final_file`) what a
completed upload leaves is exactly the uploaded content, whatever was there before -/
theorem c06_overwrite_truncates (c : RCfg) :
    (rInit c).win.file.content = [] ∧ (rInit c).win.file.initial = [] :=
  ⟨rfl, rfl⟩

/-! non-vacuity: the decision on concrete requests -/
def exCfg : SrvCfg :=
  { singlePort := false, readOnly := false, overwrite := false, cleanOnError := true, dup := 0, sendDir := [0x2F, 0x64], recvDir := [0x2F, 0x64] }

example : (handleWrq exCfg [([[0x64], [0x61]], .file [1])] [0x61] []).reply = some (.listener, .error .fileExists []) := by
  decide

end Tftp
