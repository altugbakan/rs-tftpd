import Tftp.Lemmas.ReceiverQ
/-!
# C13 — Failed uploads are cleaned up without harming completed ones

`rFinalFile c s` is what the `receive()` wrapper leaves at the target path once the worker has ended
(`none` = removed). The first part of the property is proved for every reachable receiver state
(single owner of the path). The second part — a stale earlier transfer never removes a later completed
upload — is **false of the current code**: `c13_stale_cleanup_witness` is a kernel-checked history that
ends with the completed file removed; it is replayed on the real workers on every run and recorded as a
known finding (DESIGN.md section 6, D6).
-/
namespace Tftp

/-- what the `receive()` wrapper leaves of a failed upload -/
theorem rFinalFile_failed (c : RCfg) {s : RState} (hf : s.status = .failed) :
    (c.cleanOnError = true → rFinalFile c s = none) ∧
    (c.cleanOnError = false → rFinalFile c s = some s.win.file.content) := by
  rw [rFinalFile, hf]
  exact ⟨fun hc => by rw [hc]; rfl, fun hc => by rw [hc]; rfl⟩

/-- **failure**: with clean-on-error the partial file is removed; otherwise what is kept is a prefix of
the bytes received in sequence (what had been flushed before the failure) -/
theorem c13_failed_upload (c : RCfg) (hw1 : 1 ≤ c.w) (hw : c.w < 65536) (s : RState) (h : RReach c s)
    (hf : s.status = .failed) :
    (c.cleanOnError = true → rFinalFile c s = none) ∧
    (c.cleanOnError = false → ∃ kept, rFinalFile c s = some kept ∧ kept <+: s.received.flatten) :=
  ⟨(rFinalFile_failed c hf).1, fun hc =>
    ⟨_, (rFinalFile_failed c hf).2 hc, (rreach_inv c hw1 hw s h).stored ▸ List.prefix_append _ _⟩⟩

/-- **success**: the file holds exactly the uploaded content -/
theorem c13_completed_upload (c : RCfg) (hw1 : 1 ≤ c.w) (hw : c.w < 65536) (s : RState) (h : RReach c s)
    (hok : s.status = .ok) : rFinalFile c s = some s.received.flatten := by
  rw [rFinalFile, hok, (rreach_inv c hw1 hw s h).ok_content hok]

/-! ### two transfers on one path -/

/-- the effects the `receive()` wrappers of two workers have on one path -/
inductive PathOp where
  | create              -- `File::create`: create or truncate
  | append (d : Bytes)  -- flushed blocks
  | failClean           -- the worker failed with clean-on-error: `fs::remove_file`
  | failKeep
deriving Repr, DecidableEq

def pathStep (st : Option Bytes) : PathOp → Option Bytes
  | .create => some []
  | .append d => some (st.getD [] ++ d)     -- writing through an open handle
  | .failClean => none
  | .failKeep => st

/-- **witness (defect D6)**: WRQ x is accepted (worker A creates x), the retransmitted WRQ x is accepted too
(worker B truncates x), the client completes its upload with B, then A — which never heard anything —
runs into its retry limit and removes x: the completed upload is gone. -/
theorem c13_stale_cleanup_witness (content : Bytes) :
    [PathOp.create, PathOp.create, PathOp.append content, PathOp.failClean].foldl pathStep none = none := rfl

/-- with keep-on-error the same history leaves the completed upload intact -/
theorem c13_stale_keep (content : Bytes) :
    [PathOp.create, PathOp.create, PathOp.append content, PathOp.failKeep].foldl pathStep none = some content := rfl

theorem foldl_pathStep_append (bs : List Bytes) (acc : Bytes) :
    (bs.map PathOp.append).foldl pathStep (some acc) = some (acc ++ bs.flatten) := by
  induction bs generalizing acc with
  | nil => exact congrArg some (List.append_nil acc).symm
  | cons b bs ih => rw [List.map_cons, List.foldl_cons, List.flatten_cons, ← List.append_assoc]; exact ih _

/-- a single owner: create, flushed blocks, then failure with clean-on-error leaves nothing; success leaves
the content (the path-level view of `c13_failed_upload` and `c13_completed_upload`) -/
theorem c13_single_owner_partial (blocks : List Bytes) :
    ((PathOp.create :: blocks.map PathOp.append) ++ [PathOp.failClean]).foldl pathStep none = none ∧
    (PathOp.create :: blocks.map PathOp.append).foldl pathStep none = some blocks.flatten :=
  ⟨by rw [List.foldl_append]; rfl, foldl_pathStep_append blocks []⟩

/-! ### write errors -/

/-- **write error**: on a target that can be created but takes no byte (`ENOSPC`/`EFBIG` on every non-empty write), for every
script of events: nothing is ever written, every ACK that is emitted is emitted over an empty file, the only upload that can
be reported complete is the one that carries no data at all, and a failed one is removed under clean-on-error (kept, empty,
under keep-on-error). -/
theorem c13_write_error (c : RCfg) (evs : List REv) :
    let r := rRunFrom c (rInitUnwritable c) evs
    r.2.win.file.content = [] ∧
    (∀ g ∈ r.1, ∀ a ∈ g, a.file.content = []) ∧
    (r.2.status = .ok → r.2.received.flatten = []) ∧
    (r.2.status = .failed → c.cleanOnError = true → rFinalFile c r.2 = none) ∧
    (r.2.status = .failed → c.cleanOnError = false → rFinalFile c r.2 = some []) := by
  intro r
  -- the run is the run with room for no byte, of which the invariant for any room holds
  obtain ⟨hinv, hacks⟩ := rRunFromQ_good c evs (QInv.init (s := rInitUnwritable c) rfl rfl rfl rfl (some 0))
  rw [rRunFromQ_zero c evs (s := rInitUnwritable c) rfl] at hinv hacks
  have hempty : r.2.win.file.content = [] := List.eq_nil_of_length_eq_zero (Nat.le_zero.mp (hinv.le_room rfl))
  exact ⟨hempty, fun g hg a ha => List.eq_nil_of_length_eq_zero (Nat.le_zero.mp (hacks g hg a ha 0 rfl)),
    fun hok => hinv.ok_stored hok ▸ hempty, fun hf => (rFinalFile_failed c hf).1,
    fun hf hc => hempty ▸ (rFinalFile_failed c hf).2 hc⟩

/-- **write error at any point**: the target takes `q` more bytes (`none` = unlimited; `Model/ReceiverQ.lean`: the blocks of a flush
are written one `write_all` at a time, the first that does not fit is written as far as it fits, then the flush fails). For every room
and every script of events, at the end of the run: the file is a prefix of the bytes received in sequence and not longer than the room;
a run that ended in success stored everything; a failed one is removed under clean-on-error, and what keep-on-error keeps is that prefix. -/
theorem c13_write_error_at_any_point (c : RCfg) (q : Option Nat) (evs : List REv) :
    let r := rRunFromQ c (rInit c) q evs
    r.2.1.win.file.content <+: r.2.1.received.flatten ∧
    (∀ q0, q = some q0 → r.2.1.win.file.content.length ≤ q0) ∧
    (r.2.1.status = .ok → r.2.1.win.file.content = r.2.1.received.flatten) ∧
    (r.2.1.status = .failed → c.cleanOnError = true → rFinalFile c r.2.1 = none) ∧
    (r.2.1.status = .failed → c.cleanOnError = false →
      ∃ kept, rFinalFile c r.2.1 = some kept ∧ kept <+: r.2.1.received.flatten) := by
  intro r
  have hinv := (rRunFromQ_good c evs (QInv.init (s := rInit c) rfl rfl rfl rfl q)).1
  exact ⟨hinv.pre, fun q0 hq => hinv.le_room hq, hinv.ok_stored, fun hf => (rFinalFile_failed c hf).1,
    fun hf hc => ⟨_, (rFinalFile_failed c hf).2 hc, hinv.pre⟩⟩

/-- ... and at every moment of such a run an acknowledgement is emitted only over a file that holds every byte received in sequence
(C02's "ACK means stored" survives write errors: the block that did not fit is never acknowledged) -/
theorem c13_ack_means_stored_with_any_room (c : RCfg) (q : Option Nat) (evs : List REv) (ev : REv) :
    let r := rRunFromQ c (rInit c) q evs
    ∀ a ∈ (rStepQ c r.2.1 r.2.2 ev).2.2, a.file.content = (rStepQ c r.2.1 r.2.2 ev).1.received.flatten := by
  intro r a ha
  exact ((rStepQ_good c (rRunFromQ_good c evs (QInv.init (s := rInit c) rfl rfl rfl rfl q)).1 ev).2 a ha).2

/-- with unlimited room the limited-room receiver is the receiver all other theorems are about -/
theorem c13_unlimited_room_is_the_receiver (c : RCfg) (s : RState) (hcw : s.win.file.canWrite = true) (ev : REv) :
    rStepQ c s none ev = ((rStep c s ev).1, none, (rStep c s ev).2) :=
  rStepQ_none c s hcw ev

/-- a 6-byte room, 4-byte blocks: the first block is stored and acknowledged, the second fits half and fails the upload -/
example : (rRunFromQ { b := 4, w := 1, rep := 1, cleanOnError := false } (rInit { b := 4, w := 1, rep := 1, cleanOnError := false }) (some 6)
    [.data 1 [1, 2, 3, 4], .data 2 [5, 6, 7, 8]]).2.1.status = .failed ∧
    (rRunFromQ { b := 4, w := 1, rep := 1, cleanOnError := false } (rInit { b := 4, w := 1, rep := 1, cleanOnError := false }) (some 6)
    [.data 1 [1, 2, 3, 4], .data 2 [5, 6, 7, 8]]).2.1.win.file.content = [1, 2, 3, 4, 5, 6] := by decide

/-- a data-carrying upload to such a target does fail (the `failed` clauses of `c13_write_error` speak of real runs) -/
example : (rRunFrom { b := 4, w := 2, rep := 1, cleanOnError := true } (rInitUnwritable { b := 4, w := 2, rep := 1, cleanOnError := true })
    [.data 1 [1, 2, 3, 4], .data 2 [5, 6, 7, 8]]).2.status = .failed := by decide
/-- ... and the empty upload succeeds -/
example : (rRunFrom { b := 4, w := 2, rep := 1, cleanOnError := true } (rInitUnwritable { b := 4, w := 2, rep := 1, cleanOnError := true })
    [.data 1 []]).2.status = .ok := by decide

/-! non-vacuity -/
example : (rRun { b := 4, w := 2, rep := 1, cleanOnError := false } [.data 1 [1, 2, 3, 4], .data 2 [5, 6, 7, 8], .data 3 [9, 9, 9, 9], .error]).2.status = .failed ∧
    rFinalFile { b := 4, w := 2, rep := 1, cleanOnError := false }
      (rRun { b := 4, w := 2, rep := 1, cleanOnError := false } [.data 1 [1, 2, 3, 4], .data 2 [5, 6, 7, 8], .data 3 [9, 9, 9, 9], .error]).2 =
      some [1, 2, 3, 4, 5, 6, 7, 8] := by decide

end Tftp
