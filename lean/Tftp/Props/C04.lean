import Tftp.Lemmas.NetSafety
import Tftp.Lemmas.NetLoss
/-!
# C04 — Loss tolerance

Two layers.

**Open system (proved here, every arrival history).** The only ways a data-phase worker can fail, and what
each side does to recover: a time-out re-emits the whole outstanding window, an ACK inside the window
slides it and renews the retry budget, a stale ACK changes nothing, a retransmitted block is
re-acknowledged (so a sender whose ACK was lost can go on), an accepted block renews the receiver's budget.

**Closed system.** `netRun` (`Model/Net.lean`) connects the two models through FIFO queues with a fault
schedule. The fault-free case is proved for every file, block size and window size
(`c14_fault_free_transfer` in `Props/C14.lean`). Safety holds under every fault schedule for transfers of at most
65535 blocks (`c04_closed_loop_safety`; without that bound, for the FIFO loop, see C01). For every window size, file and number of blocks, every schedule of losses and
duplications ends, and it ends with a byte-identical copy - together with the RFC's one exception - or with both
sides given up after `MAX_RETRIES` consecutive failed attempts: `c04_closed_loop_total`; with fewer than
`MAX_RETRIES` losses in total the give-up is excluded: `c04_loss_tolerance`, whose lock-step case
`c04_lockstep_loss_tolerance` is its instance at windowsize 1 (all of them from `closed_loop_end` in
`Lemmas/NetLoss.lean`). Reordering and delay are outside the FIFO queues of the closed system; they are
enumerated against the real workers (see DESIGN.md). `c04_closed_loop_partial` is the anchor of that enumeration.
-/
namespace Tftp

/-- **sender: abort only after the budget.** From a running state that satisfies the invariant, one receive
attempt ends the transfer in failure only if it is a peer ERROR, or a failed attempt (time-out,
undecodable or stray datagram) that is the `MAX_RETRIES`-th since the window last moved. No ACK — in the
window, stale, duplicate or from the future — ever fails the transfer. -/
theorem c04_sender_abort_only_after_budget (c : SCfg) (hb : 0 < c.b) (hw : c.w < 65536) (f : Bytes) (s : SState)
    (h : SInv c f s) (hrun : s.status = .running) (ev : SEv) (dt : Nat)
    (hfail : (sStep c s ev dt).1.status = .failed) :
    ev = .error ∨ ((ev = .fail ∨ ev = .other) ∧ s.retry + 1 = Gen.maxRetries) := by
  have hfs : ∀ ev, ev = SEv.fail ∨ ev = SEv.other → (sStep c s ev dt).1.status = .failed → s.retry + 1 = Gen.maxRetries := by
    intro ev hev hf
    rw [sStep_fail dt hrun hev] at hf
    split at hf
    · assumption
    · rw [sHead_fst] at hf; exact nomatch hrun.symm.trans hf
  cases ev with
  | error => exact Or.inl rfl
  | fail => exact Or.inr ⟨Or.inl rfl, hfs _ (Or.inl rfl) hfail⟩
  | other => exact Or.inr ⟨Or.inr rfl, hfs _ (Or.inr rfl) hfail⟩
  | ack n =>
    -- no acknowledgement fails the transfer: stale ones end at the loop head, the others move the window
    exfalso
    by_cases hin : (n + 65536 - s.bn) % 65536 < s.win.elems.length
    · obtain ⟨-, hfin⟩ | ⟨-, t, e, ht⟩ := sStep_ack_in hb hw h hrun n dt rfl hin
      · rw [hfin] at hfail; cases hfail
      · rw [e] at hfail; exact nomatch ht.wait.running.symm.trans hfail
    · rw [sStep_stale hw h hrun n dt hin, sHead_fst] at hfail
      exact nomatch hrun.symm.trans hfail

/-- **sender: a time-out re-emits the entire outstanding window** with the same numbers and contents -/
theorem c04_timeout_resends_window (c : SCfg) (s : SState) (hrun : s.status = .running) (dt : Nat)
    (hbudget : s.retry + 1 ≠ Gen.maxRetries) (ht : s.since + dt ≥ c.timeout) :
    (sStep c s .fail dt).2 = sendWindow c.rep s.bn s.win.elems ∧
    (sStep c s .fail dt).1.win = s.win ∧ (sStep c s .fail dt).1.bn = s.bn ∧
    (sStep c s .fail dt).1.status = .running := by
  rw [sStep_fail dt hrun (Or.inl rfl), if_neg hbudget, sHead_due ht]
  exact ⟨rfl, rfl, rfl, hrun⟩

/-- **sender: a stale acknowledgement neither spends the retry budget nor cancels the retransmission that is due**: a stale or
duplicate ACK arriving before the interval has elapsed leaves the retry counter alone, and the next failed receive attempt once the
interval (counted from the last transmission, not from the stale ACK) has elapsed re-emits the whole outstanding window. (In real time the
socket wait restarts at the stale ACK, so the attempt fails later; that it is then answered by the window is this statement, and the
`staleretx` scenario observes it on the real server.) -/
theorem c04_stale_ack_keeps_retransmission_due (c : SCfg) (hw : c.w < 65536) (f : Bytes) (s : SState) (h : SInv c f s)
    (hrun : s.status = .running) (n dt1 dt2 : Nat)
    (hstale : ¬ (n + 65536 - s.bn) % 65536 < s.win.elems.length) (ht1 : s.since + dt1 < c.timeout)
    (hbudget : s.retry + 1 ≠ Gen.maxRetries) (ht2 : s.since + dt1 + dt2 ≥ c.timeout) :
    (sStep c s (.ack n) dt1).1.retry = s.retry ∧ (sStep c s (.ack n) dt1).2 = [] ∧
    (sStep c (sStep c s (.ack n) dt1).1 .fail dt2).2 = sendWindow c.rep s.bn s.win.elems ∧
    (sStep c (sStep c s (.ack n) dt1).1 .fail dt2).1.status = .running := by
  rw [sStep_stale hw h hrun n dt1 hstale, sHead_quiet ht1]
  have := c04_timeout_resends_window c { s with since := s.since + dt1 } hrun dt2 hbudget ht2
  exact ⟨rfl, rfl, this.1, this.2.2.2⟩

/-- **sender: an ACK inside the window renews the retry budget** -/
theorem c04_progress_renews_budget (c : SCfg) (hb : 0 < c.b) (hw : c.w < 65536) (f : Bytes) (s : SState)
    (h : SInv c f s) (hrun : s.status = .running) (n dt : Nat)
    (hin : (n + 65536 - s.bn) % 65536 < s.win.elems.length) :
    (sStep c s (.ack n) dt).1.status = .ok ∨ (sStep c s (.ack n) dt).1.retry = 0 := by
  obtain ⟨-, hfin⟩ | ⟨-, t, e, ht⟩ := sStep_ack_in hb hw h hrun n dt rfl hin
  · rw [hfin]; exact Or.inl rfl
  · rw [e]; exact Or.inr ht.retry

/-- **receiver: abort only after the budget** -/
theorem c04_receiver_abort_only_after_budget (c : RCfg) (hw : c.w < 65536) (s : RState) (h : RInv c s)
    (hrun : s.status = .running) (ev : REv) (hfail : (rStep c s ev).1.status = .failed) :
    ev = .error ∨ (ev = .fail ∧ s.retry + 1 = Gen.maxRetries) := by
  cases ev with
  | error => exact Or.inl rfl
  | fail =>
    rw [rStep_fail c hrun] at hfail
    split at hfail
    · next hr => exact Or.inr ⟨rfl, hr⟩
    · exact nomatch hrun.symm.trans hfail
  | data n payload =>
    -- on a writable file no DATA datagram fails the transfer
    exfalso
    by_cases hseq : n = (s.bn + 1) % 65536
    · rw [rStep_inseq hw h.pending hrun n payload hseq] at hfail
      split at hfail
      · cases hfail
      · split at hfail <;> exact nomatch hrun.symm.trans hfail
    · by_cases hdup : n = s.bn ∧ s.win.elems ≠ []
      · obtain ⟨rfl, hpend⟩ := hdup
        rw [rStep_dup c hrun payload hpend] at hfail
        exact nomatch hrun.symm.trans hfail
      · rw [rStep_reack c hrun h.can_write n payload hseq hdup] at hfail
        exact nomatch hrun.symm.trans hfail

/-- **receiver: a retransmitted block is re-acknowledged.** When nothing is pending (the last ACK went out
and may have been lost) any DATA that is not the next expected one — in particular the retransmission
of the block just acknowledged — makes the receiver repeat the ACK of the last in-sequence block;
its state is unchanged. This is what repairs a lost ACK. -/
theorem c04_reack_on_retransmission (c : RCfg) (s : RState) (hrun : s.status = .running)
    (hcw : s.win.file.canWrite = true) (hnone : s.win.elems = []) (n : Nat) (payload : Bytes)
    (hseq : n ≠ (s.bn + 1) % 65536) :
    (rStep c s (.data n payload)).2 = ackOut c.rep s.bn s.win.file ∧
    (rStep c s (.data n payload)).1.accepted = s.accepted ∧ (rStep c s (.data n payload)).1.bn = s.bn ∧
    (rStep c s (.data n payload)).1.status = .running := by
  rw [rStep_reack c hrun hcw n payload hseq (fun h => h.2 hnone)]
  exact ⟨by simp [RState.flushed, hnone], rfl, rfl, hrun⟩

/-- **receiver: every accepted block renews the retry budget** (not only every completed window) -/
theorem c04_accept_renews_budget (c : RCfg) (s : RState) (hrun : s.status = .running) (n : Nat) (payload : Bytes)
    (hseq : n = (s.bn + 1) % 65536) :
    (rStep c s (.data n payload)).1.status = .failed ∨ (rStep c s (.data n payload)).1.retry = 0 := by
  obtain h | ⟨w, h⟩ := rStep_inseq_frame c hrun n payload hseq
  · exact Or.inl h
  · exact Or.inr (by rw [h]; rfl)

/-- the retry budget is the constant of the source (`MAX_RETRIES`) and at least six: fewer than six
consecutive failed receive attempts never exhaust it -/
theorem c04_six_le_budget : 6 ≤ Gen.maxRetries := by decide

/-- **closed loop, partial**: without faults the lock-step transfer of an empty file completes — the
smallest instance of the closed-loop claim, kept as the anchor of the simulator -/
theorem c04_closed_loop_partial (b : Nat) (hb : 0 < b) :
    let sc : SCfg := { b := b, w := 1, timeout := 5000, rep := 1 }
    let rc : RCfg := { b := b, w := 1, rep := 1, cleanOnError := true }
    let st := netRun sc rc Faults.none 4 (netInit sc rc Faults.none [])
    st.s.status = .ok ∧ st.r.status = .ok ∧ st.r.win.file.content = [] := by
  -- two steps do the work: DATA 1, the empty final block, reaches the receiver, which ends; its ACK reaches the sender,
  -- which ends. The proof evaluates the simulator on this one schedule (`b` stays symbolic, hence `simp` and not `decide`).
  have h0 : ¬ (0 = b) := by omega
  have hlt : (0 : Nat) < b := hb
  simp [netRun, netStep, netInit, sInit, sOuter, sHead, Window.fill, Window.new, Window.len, FileSt.openRead,
    fillLoop, sendWindow, sendPacket, emitData, dataOf, applyFaults, Faults.none, rInit, receiverRunning,
    senderRunning, rStep, Window.add, FileSt.create, markOk, flushAck, Window.empty, ackOut,
    emitAcks, sStep, slide, Window.isEmpty, FileSt.write, FileSt.content, h0, hlt, Gen.timeoutBufferMs]

/-! non-vacuity: a lost DATA and a lost ACK in a three-block transfer with windowsize 2 -/
def exSc : SCfg := { b := 2, w := 2, timeout := 5, rep := 1 }
def exRc : RCfg := { b := 2, w := 2, rep := 1, cleanOnError := true }
def exFl : Faults := { dropData := [1], dupData := [], dropAck := [0], dupAck := [] }

example : (netRun exSc exRc exFl 60 (netInit exSc exRc exFl [1, 2, 3, 4, 5])).s.status = .ok ∧
    (netRun exSc exRc exFl 60 (netInit exSc exRc exFl [1, 2, 3, 4, 5])).r.status = .ok ∧
    (netRun exSc exRc exFl 60 (netInit exSc exRc exFl [1, 2, 3, 4, 5])).r.win.file.content = [1, 2, 3, 4, 5] := by
  decide

/-- **closed loop, safety under every fault schedule** (at most 65535 blocks): whatever datagrams are lost
or duplicated in either direction, and however long the loop runs, the receiving side has accepted
exactly blocks `1..j` of the sender's file, and if it ends successfully its file is byte-identical.
(That it *does* end successfully when fewer than `MAX_RETRIES` datagrams are lost is `c04_loss_tolerance`; the
fault-free case is `c14_fault_free_transfer`.) -/
theorem c04_closed_loop_safety (sc : SCfg) (rc : RCfg) (hb : 0 < sc.b) (hw1 : 1 ≤ sc.w) (hw : sc.w < 65536)
    (hrb : rc.b = sc.b) (hrw : rc.w = sc.w) (fl : Faults) (f : Bytes) (hN : nblocks sc.b f ≤ 65535) (fuel : Nat) :
    (netRun sc rc fl fuel (netInit sc rc fl f)).r.received =
        blocksUpTo sc.b f (netRun sc rc fl fuel (netInit sc rc fl f)).r.received.length ∧
    ((netRun sc rc fl fuel (netInit sc rc fl f)).r.status = .ok →
        (netRun sc rc fl fuel (netInit sc rc fl f)).r.win.file.content = f) :=
  closed_loop_safety sc rc hb hw1 hw hrb hrw fl f hN fuel

/-- **closed loop, liveness under loss - every window size**: for every file, every block size >= 1, every
window size 1..65535 and every positive retransmission interval, and for every fault schedule that
duplicates any datagrams in either direction and loses fewer datagrams in total than `MAX_RETRIES` (in
particular any single lost DATA or ACK), the closed loop of the sender model and the receiver model reaches
its end with the receiver ended successfully and its file byte-identical to the sender's; the sender has
ended successfully too, or has given up - and that only if the final acknowledgement (ordinal `na - 1`, the
last the receiver emitted) is among the lost ones: the exception RFC 1350 permits. No bound on the number of
blocks: the proof (`Lemmas/NetLoss.lean`) goes through the 16-bit wrap. -/
theorem c04_loss_tolerance (sc : SCfg) (rc : RCfg) (hb : 0 < sc.b) (hw1 : 1 ≤ sc.w) (hw : sc.w < 65536)
    (hrep : sc.rep = 1) (ht : 0 < sc.timeout) (hrb : rc.b = sc.b) (hrw : rc.w = sc.w) (hrrep : rc.rep = 1)
    (fl : Faults) (hbudget : fl.dropData.length + fl.dropAck.length < Gen.maxRetries) (f : Bytes) :
    ∃ fuel,
      (netRun sc rc fl fuel (netInit sc rc fl f)).r.status = .ok ∧
      (netRun sc rc fl fuel (netInit sc rc fl f)).r.win.file.content = f ∧
      ((netRun sc rc fl fuel (netInit sc rc fl f)).s.status = .ok ∨
        ((netRun sc rc fl fuel (netInit sc rc fl f)).s.status = .failed ∧
          (netRun sc rc fl fuel (netInit sc rc fl f)).s.retry = Gen.maxRetries ∧
          fl.dropAck.contains ((netRun sc rc fl fuel (netInit sc rc fl f)).na - 1) = true)) :=
  loss_tolerance sc rc ⟨⟨hb, hw1, hw, hrep, hrb, hrw, hrrep⟩, ht⟩ fl hbudget f

/-- in particular, the loss of any one DATA datagram (no other fault) never fails a transfer: both sides end
successfully with identical files -/
theorem c04_single_data_loss (sc : SCfg) (rc : RCfg) (hb : 0 < sc.b) (hw1 : 1 ≤ sc.w) (hw : sc.w < 65536)
    (hrep : sc.rep = 1) (ht : 0 < sc.timeout) (hrb : rc.b = sc.b) (hrw : rc.w = sc.w) (hrrep : rc.rep = 1)
    (k : Nat) (f : Bytes) :
    ∃ fuel,
      (netRun sc rc ⟨[k], [], [], []⟩ fuel (netInit sc rc ⟨[k], [], [], []⟩ f)).s.status = .ok ∧
      (netRun sc rc ⟨[k], [], [], []⟩ fuel (netInit sc rc ⟨[k], [], [], []⟩ f)).r.status = .ok ∧
      (netRun sc rc ⟨[k], [], [], []⟩ fuel (netInit sc rc ⟨[k], [], [], []⟩ f)).r.win.file.content = f :=
  loss_tolerance_acks_kept sc rc ⟨⟨hb, hw1, hw, hrep, hrb, hrw, hrrep⟩, ht⟩ ⟨[k], [], [], []⟩ rfl (by show 1 < Gen.maxRetries; decide) f

/-- the hypotheses of `c04_loss_tolerance` are met by the windowed example above (`exSc`, `exRc`, `exFl`: one
DATA and one ACK lost, windowsize 2), whose run is evaluated there -/
example : 0 < exSc.b ∧ 1 ≤ exSc.w ∧ exSc.w < 65536 ∧ exSc.rep = 1 ∧ 0 < exSc.timeout ∧ exRc.b = exSc.b ∧
    exRc.w = exSc.w ∧ exRc.rep = 1 ∧ exFl.dropData.length + exFl.dropAck.length < Gen.maxRetries := by decide

/-- **closed loop, liveness under loss - lock-step** (windowsize 1, i.e. RFC 1350): the instance of
`c04_loss_tolerance` at windowsize 1. "Fewer than `MAX_RETRIES` in total" is a stronger hypothesis than the property's
"fewer than `MAX_RETRIES` consecutive failed attempts"; the consecutive form is `c04_closed_loop_total`. -/
theorem c04_lockstep_loss_tolerance (sc : SCfg) (rc : RCfg) (hb : 0 < sc.b) (hw : sc.w = 1) (hrep : sc.rep = 1)
    (ht : 0 < sc.timeout) (hrb : rc.b = sc.b) (hrw : rc.w = 1) (hrrep : rc.rep = 1) (fl : Faults)
    (hbudget : fl.dropData.length + fl.dropAck.length < Gen.maxRetries) (f : Bytes) :
    ∃ fuel,
      (netRun sc rc fl fuel (netInit sc rc fl f)).r.status = .ok ∧
      (netRun sc rc fl fuel (netInit sc rc fl f)).r.win.file.content = f ∧
      ((netRun sc rc fl fuel (netInit sc rc fl f)).s.status = .ok ∨
        ((netRun sc rc fl fuel (netInit sc rc fl f)).s.status = .failed ∧
          (netRun sc rc fl fuel (netInit sc rc fl f)).s.retry = Gen.maxRetries ∧
          fl.dropAck.contains ((netRun sc rc fl fuel (netInit sc rc fl f)).na - 1) = true)) :=
  c04_loss_tolerance sc rc hb (by omega) (by omega) hrep ht hrb (hw ▸ hrw) hrrep fl hbudget f

/-- in particular: if no acknowledgement is lost, both sides end successfully -/
theorem c04_lockstep_data_loss_only (sc : SCfg) (rc : RCfg) (hb : 0 < sc.b) (hw : sc.w = 1) (hrep : sc.rep = 1)
    (ht : 0 < sc.timeout) (hrb : rc.b = sc.b) (hrw : rc.w = 1) (hrrep : rc.rep = 1) (fl : Faults)
    (hack : fl.dropAck = []) (hbudget : fl.dropData.length < Gen.maxRetries) (f : Bytes) :
    ∃ fuel,
      (netRun sc rc fl fuel (netInit sc rc fl f)).s.status = .ok ∧
      (netRun sc rc fl fuel (netInit sc rc fl f)).r.status = .ok ∧
      (netRun sc rc fl fuel (netInit sc rc fl f)).r.win.file.content = f :=
  loss_tolerance_acks_kept sc rc ⟨⟨hb, by omega, by omega, hrep, hrb, hw ▸ hrw, hrrep⟩, ht⟩ fl hack hbudget f

/-! non-vacuity: a lock-step configuration and a schedule with five losses and two duplications meet the
hypotheses; run on a three-block file the simulator ends as the theorem says: the final ACK (ordinal 3) is
lost, so the sender gives up while the receiver holds the complete file - RFC 1350's exception -/
def exLockSc : SCfg := { b := 2, w := 1, timeout := 5, rep := 1 }
def exLockRc : RCfg := { b := 2, w := 1, rep := 1, cleanOnError := true }
def exLockFl : Faults := { dropData := [0, 1, 3], dupData := [2], dropAck := [1, 3], dupAck := [0] }

example : 0 < exLockSc.b ∧ exLockSc.w = 1 ∧ exLockSc.rep = 1 ∧ 0 < exLockSc.timeout ∧ exLockRc.b = exLockSc.b ∧
    exLockRc.w = 1 ∧ exLockRc.rep = 1 ∧ exLockFl.dropData.length + exLockFl.dropAck.length < Gen.maxRetries := by
  decide

example : (netRun exLockSc exLockRc exLockFl 200 (netInit exLockSc exLockRc exLockFl [1, 2, 3, 4, 5])).r.status = .ok ∧
    (netRun exLockSc exLockRc exLockFl 200 (netInit exLockSc exLockRc exLockFl [1, 2, 3, 4, 5])).r.win.file.content = [1, 2, 3, 4, 5] ∧
    (netRun exLockSc exLockRc exLockFl 200 (netInit exLockSc exLockRc exLockFl [1, 2, 3, 4, 5])).s.status = .failed ∧
    (netRun exLockSc exLockRc exLockFl 200 (netInit exLockSc exLockRc exLockFl [1, 2, 3, 4, 5])).na - 1 = 3 := by
  decide

/-- **the closed loop under every fault schedule - the property at its literal strength** (FIFO network): for
every file, block size >= 1, window size 1..65535, positive retransmission interval, and for EVERY schedule of
lost and duplicated datagrams - no bound on how many - the closed loop of the sender model and the receiver
model runs to an end, and the end is one of exactly two kinds:
* the receiving side has ended successfully and its file is byte-identical to the sender's; the sending side
  has ended successfully, or has given up with its retry counter at `MAX_RETRIES` (this is the RFC 1350
  exception: the final acknowledgement never reached it);
* both sides have given up, each with its retry counter at `MAX_RETRIES`.
The retry counter of either model is, by definition of `sStep` / `rStep`, the number of consecutive failed
receive attempts since the window last moved (sender) or a block was last accepted (receiver); so a transfer
in which neither side ever sees `MAX_RETRIES` consecutive failed attempts completes successfully, whatever
else is lost or repeated, and no schedule makes the loop run for ever. -/
theorem c04_closed_loop_total (sc : SCfg) (rc : RCfg) (hb : 0 < sc.b) (hw1 : 1 ≤ sc.w) (hw : sc.w < 65536)
    (hrep : sc.rep = 1) (ht : 0 < sc.timeout) (hrb : rc.b = sc.b) (hrw : rc.w = sc.w) (hrrep : rc.rep = 1)
    (fl : Faults) (f : Bytes) :
    ∃ fuel,
      ((netRun sc rc fl fuel (netInit sc rc fl f)).r.status = .ok ∧
        (netRun sc rc fl fuel (netInit sc rc fl f)).r.win.file.content = f ∧
        ((netRun sc rc fl fuel (netInit sc rc fl f)).s.status = .ok ∨
          ((netRun sc rc fl fuel (netInit sc rc fl f)).s.status = .failed ∧
            (netRun sc rc fl fuel (netInit sc rc fl f)).s.retry = Gen.maxRetries))) ∨
      ((netRun sc rc fl fuel (netInit sc rc fl f)).r.status = .failed ∧
        (netRun sc rc fl fuel (netInit sc rc fl f)).r.retry = Gen.maxRetries ∧
        (netRun sc rc fl fuel (netInit sc rc fl f)).s.status = .failed ∧
        (netRun sc rc fl fuel (netInit sc rc fl f)).s.retry = Gen.maxRetries) :=
  closed_loop_total sc rc ⟨⟨hb, hw1, hw, hrep, hrb, hrw, hrrep⟩, ht⟩ fl f

/-! non-vacuity of the second kind of end: the first DATA datagram lost six times in a row (beyond the budget) -
both models give up with their counters at `MAX_RETRIES` -/
def exDeadFl : Faults := { dropData := [0, 1, 2, 3, 4, 5], dupData := [], dropAck := [], dupAck := [] }

example : (netRun exLockSc exLockRc exDeadFl 50 (netInit exLockSc exLockRc exDeadFl [1, 2, 3])).r.status = .failed ∧
    (netRun exLockSc exLockRc exDeadFl 50 (netInit exLockSc exLockRc exDeadFl [1, 2, 3])).r.retry = Gen.maxRetries ∧
    (netRun exLockSc exLockRc exDeadFl 50 (netInit exLockSc exLockRc exDeadFl [1, 2, 3])).s.status = .failed := by
  decide

/-- **success on the sending side means the copy has arrived**: at every moment of every run of the closed loop -
every fault schedule, every file length and window size - if the sending side has ended successfully then the
receiving side has ended successfully too and its file is byte-identical. (The converse fails only in RFC 1350's
permitted way: the final acknowledgement may be lost, see `c04_closed_loop_total`.) -/
theorem c04_sender_success_means_delivered (sc : SCfg) (rc : RCfg) (hb : 0 < sc.b) (hw1 : 1 ≤ sc.w) (hw : sc.w < 65536)
    (hrep : sc.rep = 1) (ht : 0 < sc.timeout) (hrb : rc.b = sc.b) (hrw : rc.w = sc.w) (hrrep : rc.rep = 1)
    (fl : Faults) (f : Bytes) (fuel : Nat) :
    (netRun sc rc fl fuel (netInit sc rc fl f)).s.status = .ok →
      (netRun sc rc fl fuel (netInit sc rc fl f)).r.status = .ok ∧
      (netRun sc rc fl fuel (netInit sc rc fl f)).r.win.file.content = f :=
  fun hok =>
    have h := (closed_loop_phase sc rc ⟨⟨hb, hw1, hw, hrep, hrb, hrw, hrrep⟩, ht⟩ fl f fuel).safe
    ⟨h.2.1 hok, h.1 (h.2.1 hok)⟩

end Tftp
