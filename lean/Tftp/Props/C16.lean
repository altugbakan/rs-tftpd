import Tftp.Lemmas.Sender
import Tftp.Lemmas.Receiver
/-!
# C16 — Duplicate-packets mode repeats data-phase datagrams N+1 times, stays correct

`rep = N + 1` is the `repeat_amount` the server passes to its workers.
-/
namespace Tftp

/-- every DATA/ACK of the data phase `r` times back to back; the handshake ERROR once -/
def stutter (r : Nat) (ps : List Packet) : List Packet :=
  ps.flatMap fun p => if p = illegalOp then [p] else List.replicate r p

theorem sendWindow_stutter (r bn : Nat) (es : List Bytes) :
    sendWindow r bn es = stutter r (sendWindow 1 bn es) := by
  induction es generalizing bn with
  | nil => rfl
  | cons e es ih =>
    rw [sendWindow, sendWindow, ih]
    simp [stutter, sendPacket, illegalOp]

/-- same configuration except for the repeat count -/
def SCfg.withRep (c : SCfg) (r : Nat) : SCfg := { c with rep := r }

theorem sHead_stutter (c : SCfg) (r : Nat) (s : SState) :
    (sHead (c.withRep r) s).1 = (sHead (c.withRep 1) s).1 ∧
    (sHead (c.withRep r) s).2 = stutter r (sHead (c.withRep 1) s).2 := by
  by_cases h : c.timeout ≤ s.since
  · rw [sHead_due (c := c.withRep r) h, sHead_due (c := c.withRep 1) h]
    exact ⟨rfl, sendWindow_stutter r s.bn s.win.elems⟩
  · rw [sHead_quiet (c := c.withRep r) (Nat.lt_of_not_le h), sHead_quiet (c := c.withRep 1) (Nat.lt_of_not_le h)]
    exact ⟨rfl, rfl⟩

theorem sOuter_stutter (c : SCfg) (r : Nat) (s : SState) :
    (sOuter (c.withRep r) s).1 = (sOuter (c.withRep 1) s).1 ∧
    (sOuter (c.withRep r) s).2 = stutter r (sOuter (c.withRep 1) s).2 := by
  unfold sOuter
  split
  · exact sHead_stutter c r _
  · exact ⟨rfl, rfl⟩

theorem SAct.run_stutter (c : SCfg) (r : Nat) (a : SAct) :
    (a.run (c.withRep r)).1 = (a.run (c.withRep 1)).1 ∧ (a.run (c.withRep r)).2 = stutter r (a.run (c.withRep 1)).2 := by
  cases a with
  | quiet t => exact ⟨rfl, rfl⟩
  | refuse t => exact ⟨rfl, by simp [SAct.run, stutter]⟩
  | head t => exact sHead_stutter c r t
  | outer t => exact sOuter_stutter c r t

/-- **stutter**: for every state, event and elapsed time, a sender with repeat count `r` moves to the
same state as one with repeat count 1 and emits the `r`-fold stutter of its output: the decision does not read the
configuration, which enters only where the window is sent -/
theorem c16_stutter_step (c : SCfg) (r : Nat) (s : SState) (ev : SEv) (dt : Nat) :
    (sStep (c.withRep r) s ev dt).1 = (sStep (c.withRep 1) s ev dt).1 ∧
    (sStep (c.withRep r) s ev dt).2 = stutter r (sStep (c.withRep 1) s ev dt).2 := by
  rw [sStep_eq, sStep_eq]
  exact SAct.run_stutter c r _

/-- two senders that move alike, the output of one being the image of the other's: so do their runs -/
theorem sRunFrom_map {c c' : SCfg} {g : List Packet → List Packet}
    (h : ∀ s ev dt, (sStep c s ev dt).1 = (sStep c' s ev dt).1 ∧ (sStep c s ev dt).2 = g (sStep c' s ev dt).2)
    (s : SState) (evs : List (SEv × Nat)) :
    (sRunFrom c s evs).2 = (sRunFrom c' s evs).2 ∧ (sRunFrom c s evs).1 = (sRunFrom c' s evs).1.map g := by
  induction evs generalizing s with
  | nil => exact ⟨rfl, rfl⟩
  | cons e es ih =>
    rw [sRunFrom, sRunFrom, (h s e.1 e.2).1, (h s e.1 e.2).2]
    exact ⟨(ih _).1, congrArg _ (ih _).2⟩

/-- lifted to whole runs: same final state, every output group stuttered -/
theorem c16_stutter (c : SCfg) (r : Nat) (f : Bytes) (chk : Bool) (evs : List (SEv × Nat)) :
    (sRun (c.withRep r) f chk evs).2 = (sRun (c.withRep 1) f chk evs).2 ∧
    (sRun (c.withRep r) f chk evs).1 = (sRun (c.withRep 1) f chk evs).1.map (stutter r) := by
  have hinit : (sInit (c.withRep r) f chk).1 = (sInit (c.withRep 1) f chk).1 ∧
      (sInit (c.withRep r) f chk).2 = stutter r (sInit (c.withRep 1) f chk).2 := by
    cases chk with
    | true => simp only [sInit, ↓reduceIte]; exact ⟨rfl, rfl⟩
    | false => simp only [sInit, Bool.false_eq_true, ↓reduceIte]; exact sOuter_stutter c r _
  have hrun := sRunFrom_map (c16_stutter_step c r) (sInit (c.withRep 1) f chk).1 evs
  rw [sRun, sRun, hinit.1, hinit.2]
  exact ⟨hrun.1, congrArg _ hrun.2⟩

/-- each DATA block is emitted exactly `r` times back to back -/
theorem c16_data_repeated (r bn : Nat) (e : Bytes) (es : List Bytes) :
    sendWindow r bn (e :: es) = List.replicate r (.data bn e) ++ sendWindow r ((bn + 1) % 65536) es := rfl

/-- the receiver emits each data-phase ACK exactly `r` times back to back -/
theorem c16_ack_repeated (r n : Nat) (file : FileSt) :
    ackOut r n file = List.replicate r { n := n, file := file } := rfl

/-- the flush reads the repeat count only to repeat its acknowledgement -/
theorem flushAck_rep (c : RCfg) (r : Nat) (t : RState) :
    flushAck { c with rep := r } t =
      ((flushAck { c with rep := 1 } t).1, (flushAck { c with rep := 1 } t).2.flatMap (List.replicate r)) := by
  unfold flushAck
  split <;> simp [ackOut]

theorem markOk_map (g : List AckObs → List AckObs) (x : RState × List AckObs) :
    markOk (x.1, g x.2) = ((markOk x).1, g (markOk x).2) := rfl

theorem RAct.run_rep (c : RCfg) (r : Nat) (a : RAct) :
    a.run { c with rep := r } = ((a.run { c with rep := 1 }).1, (a.run { c with rep := 1 }).2.flatMap (List.replicate r)) := by
  cases a with
  | stay t => rfl
  | flush t => exact flushAck_rep c r t
  | finish t => exact (congrArg markOk (flushAck_rep c r t)).trans (markOk_map _ _)

/-- the receiver's states do not depend on the repeat count, its ACK groups are `r` copies of one ACK: the decision does not read
the repeat count -/
theorem c16_receiver_step (c : RCfg) (r : Nat) (s : RState) (ev : REv) :
    (rStep { c with rep := r } s ev).1 = (rStep { c with rep := 1 } s ev).1 ∧
    (rStep { c with rep := r } s ev).2 = (rStep { c with rep := 1 } s ev).2.flatMap (List.replicate r) := by
  rw [rStep_eq, rStep_eq, RAct.run_rep]
  exact ⟨rfl, rfl⟩

/-- two receivers that move alike, the ACK groups of one being the image of the other's: so do their runs -/
theorem rRunFrom_map {c c' : RCfg} {g : List AckObs → List AckObs}
    (h : ∀ s ev, (rStep c s ev).1 = (rStep c' s ev).1 ∧ (rStep c s ev).2 = g (rStep c' s ev).2) (s : RState) (evs : List REv) :
    (rRunFrom c s evs).2 = (rRunFrom c' s evs).2 ∧ (rRunFrom c s evs).1 = (rRunFrom c' s evs).1.map g := by
  induction evs generalizing s with
  | nil => exact ⟨rfl, rfl⟩
  | cons e es ih =>
    rw [rRunFrom, rRunFrom, (h s e).1, (h s e).2]
    exact ⟨(ih _).1, congrArg _ (ih _).2⟩

/-- **lifted to whole uploads**: for every event script the receiver with repeat count `r` goes through the
same states as the one with repeat count 1 — so it accepts the same blocks, stores the same file and ends the
same way — and every group of acknowledgements it emits is the group of the plain receiver with each ACK
`r` times back to back -/
theorem c16_receiver_run (c : RCfg) (r : Nat) (evs : List REv) :
    (rRun { c with rep := r } evs).2 = (rRun { c with rep := 1 } evs).2 ∧
    (rRun { c with rep := r } evs).1 = (rRun { c with rep := 1 } evs).1.map (·.flatMap (List.replicate r)) :=
  rRunFrom_map (g := (·.flatMap (List.replicate r))) (c16_receiver_step c r) _ evs

/-- `--duplicate-packets n` is accepted by the configuration parser only below the bound of the source
(`u8::MAX`), so `n + 1` fits the `u8` repeat count -/
theorem c16_dup_bound : Gen.dupPacketsBound = 255 ∧ Gen.dupPacketsBound - 1 + 1 < 256 := by decide

/-! non-vacuity -/
example : (sRun (({ b := 2, w := 1, timeout := 5, rep := 9 } : SCfg).withRep 3) [1, 2, 3] false [(.ack 1, 0)]).1 =
    [[.data 1 [1, 2], .data 1 [1, 2], .data 1 [1, 2]], [.data 2 [3], .data 2 [3], .data 2 [3]]] := by decide

end Tftp
