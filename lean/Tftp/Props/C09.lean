import Tftp.Lemmas.Server
import Tftp.Lemmas.Sender
/-!
# C09 — Option negotiation: OACK is truthful and the transfer uses exactly its values

The option list that reaches `handle_rrq`/`handle_wrq` is the list of *recognised* options of the
request (unknown names are dropped by the decoder, names compared case-insensitively: see
`c09_name_case`). `parseWorkerOptions` mirrors `parse_options`; its guards come from the current
source text through `Generated.lean`.
-/
namespace Tftp

/-- **OACK exactly when at least one recognised option was requested.** For an accepted read request the
first reply is an OACK iff the recognised-option list is non-empty, otherwise nothing precedes DATA 1
(`checkResponse = false`); for an accepted write request it is an OACK iff non-empty, otherwise ACK 0. -/
theorem c09_oack_iff (cfg : SrvCfg) (fs : Fs) (name : Bytes) (os : List TransferOption) (w : WorkerSpec) :
    ((handleRrq cfg fs name os).worker = some w →
      (os ≠ [] → ∃ acked, (handleRrq cfg fs name os).reply = some (.transfer, .oack acked) ∧ w.checkResponse = true) ∧
      (os = [] → (handleRrq cfg fs name os).reply = none ∧ w.checkResponse = false)) ∧
    ((handleWrq cfg fs name os).worker = some w →
      (os ≠ [] → ∃ acked, (handleWrq cfg fs name os).reply = some (.transfer, .oack acked)) ∧
      (os = [] → (handleWrq cfg fs name os).reply = some (.transfer, .ack 0))) := by
  -- an accepted request acknowledges `os.map _`, which is empty iff `os` is
  constructor
  · intro hw
    rcases handleRrq_cases cfg fs name os with ⟨_, e⟩ | e | ⟨_, _, -, hp, e⟩ <;> rw [e] at hw ⊢
    · cases hw
    · cases hw
    · obtain ⟨-, -, rfl⟩ := parseWorkerOptions_eq_some.mp hp
      cases hw
      cases os <;> simp
  · intro hw
    rcases handleWrq_cases cfg fs name os with ⟨_, e⟩ | e | ⟨_, _, -, hp, e⟩ <;> rw [e] at hw ⊢
    · cases hw
    · cases hw
    · obtain ⟨-, -, rfl⟩ := parseWorkerOptions_eq_some.mp hp
      cases os <;> simp

/-- **the OACK is truthful.** It lists exactly the requested recognised options, in request order; each
value equals the requested one — so never exceeds it — except `tsize` on a read request, which carries
the file's true size (on a write request the client's value is echoed). -/
theorem c09_oack_subset (os : List TransferOption) (rt : ReqType) (wo : WorkerOptions)
    (acked : List TransferOption) (h : parseWorkerOptions os rt = some (wo, acked)) :
    acked.length = os.length ∧
    ∀ i, i < os.length → ∃ r a, os[i]? = some r ∧ acked[i]? = some a ∧ a.option = r.option ∧
      (r.option ≠ .tsize → a.value = r.value) ∧
      (r.option = .tsize → a.value = tsizeAck rt r.value) := by
  obtain ⟨-, -, rfl⟩ := parseWorkerOptions_eq_some.mp h
  refine ⟨List.length_map _, ?_⟩
  intro i hi
  exact ⟨os[i], ackFor rt os[i], List.getElem?_eq_getElem hi, by simp [hi], ackFor_spec rt os[i]⟩

/-- **values the server cannot honour are never acknowledged**: a request carrying `timeout 0`,
`windowsize 0` or `> 65535`, or `blksize` outside `8..65464` gets no OACK and starts no transfer -/
theorem c09_invalid_never_acked (cfg : SrvCfg) (fs : Fs) (name : Bytes) (os : List TransferOption)
    (hbad : ∃ o ∈ os, Unhonourable o) :
    (∀ acked, (handleRrq cfg fs name os).reply ≠ some (.transfer, .oack acked)) ∧
    (handleRrq cfg fs name os).worker = none ∧
    (∀ acked, (handleWrq cfg fs name os).reply ≠ some (.transfer, .oack acked)) ∧
    (handleWrq cfg fs name os).worker = none := by
  have hnone : ∀ rt, parseWorkerOptions os rt = none := by
    intro rt
    obtain ⟨o, ho, hu⟩ := hbad
    rw [parseWorkerOptions_eq, if_pos (List.any_eq_true.mpr ⟨o, ho, rejected_of_unhonourable hu⟩)]
  -- so neither request is accepted: what is left is an ERROR from the listener or silence
  have refused : ∀ r : Reaction, (∃ code, r = errorReply code) ∨ r = noReaction →
      (∀ acked, r.reply ≠ some (.transfer, .oack acked)) ∧ r.worker = none := by
    rintro r (⟨_, rfl⟩ | rfl) <;> exact ⟨fun _ h => (nomatch h), rfl⟩
  have hr := refused (handleRrq cfg fs name os) <| by
    rcases handleRrq_cases cfg fs name os with h | h | ⟨_, _, -, hp, -⟩
    · exact .inl h
    · exact .inr h
    · rw [hnone] at hp; cases hp
  have hw := refused (handleWrq cfg fs name os) <| by
    rcases handleWrq_cases cfg fs name os with h | h | ⟨_, _, -, hp, -⟩
    · exact .inl h
    · exact .inr h
    · rw [hnone] at hp; cases hp
  exact ⟨hr.1, hr.2, hw⟩

/-- **the transfer uses precisely the acknowledged values**, and they are values the worker can honour:
block length `8..65464`, `1..65535` blocks per window, retransmission interval `1..255` s; RFC 1350
defaults (512 bytes, lock-step, 5 s) when nothing was acknowledged -/
theorem c09_worker_params_sane (os : List TransferOption) (rt : ReqType) (wo : WorkerOptions)
    (acked : List TransferOption) (h : parseWorkerOptions os rt = some (wo, acked)) :
    8 ≤ wo.blockSize ∧ wo.blockSize ≤ 65464 ∧ 1 ≤ wo.windowSize ∧ wo.windowSize ≤ 65535 ∧
    1 ≤ wo.timeoutS ∧ wo.timeoutS ≤ 255 := by
  obtain ⟨ho, rfl, -⟩ := parseWorkerOptions_eq_some.mp h
  exact foldl_applyOption_sane rt os defaultOptions_sane ho

theorem c09_defaults : parseWorkerOptions [] .write = some (defaultOptions, []) ∧
    defaultOptions.blockSize = 512 ∧ defaultOptions.windowSize = 1 ∧ defaultOptions.timeoutS = 5 := by
  decide

/-- a single acknowledged option sets exactly its parameter (the last one wins when repeated) -/
theorem c09_worker_uses_last (rt : ReqType) (pre : List TransferOption) (o : TransferOption)
    (wo : WorkerOptions) (acked : List TransferOption)
    (h : parseWorkerOptions (pre ++ [o]) rt = some (wo, acked)) :
    (o.option = .blksize → wo.blockSize = o.value) ∧
    (o.option = .windowsize → wo.windowSize = o.value) ∧
    (o.option = .timeout → wo.timeoutS = o.value) := by
  obtain ⟨-, rfl, -⟩ := parseWorkerOptions_eq_some.mp h
  rw [List.foldl_append]
  refine ⟨?_, ?_, ?_⟩ <;> intro ho <;> simp only [List.foldl_cons, List.foldl_nil, applyOption, ho]

/-! names: every ASCII case variant of the four names is recognised -/

def asciiLower (b : UInt8) : UInt8 := if 0x41 ≤ b ∧ b ≤ 0x5A then b + 32 else b

theorem lowerName_cons (b : UInt8) (rest : Bytes) (hb : b ≠ 0xE2) :
    lowerName (b :: rest) = asciiLower b :: lowerName rest := by
  rw [lowerName.eq_def]
  split
  · next h => cases h                        -- the empty string
  · next h => cases h; exact absurd rfl hb   -- the KELVIN SIGN arm: its first byte is `0xE2`
  · next h => cases h; rfl

theorem lowerName_ascii (s : Bytes) (h : ∀ b ∈ s, b < 0x80) : lowerName s = s.map asciiLower := by
  induction s with
  | nil => simp [lowerName]
  | cons b rest ih =>
    have hb : b < 0x80 := h b (by simp)
    have hr : ∀ x ∈ rest, x < 0x80 := fun x hx => h x (by simp [hx])
    have hne : b ≠ 0xE2 := by
      intro he; subst he; exact absurd hb (by decide)
    rw [lowerName_cons b rest hne, List.map_cons, ih hr]

/-- **case-insensitive names**: any spelling whose ASCII lower-casing is the option's name is recognised -/
theorem c09_name_case (s : Bytes) (t : OptionType) (hascii : ∀ b ∈ s, b < 0x80)
    (h : s.map asciiLower = t.name) : OptionType.ofName (lowerName s) = some t := by
  rw [lowerName_ascii s hascii, h]
  cases t <;> decide

/-- U+212A KELVIN SIGN lower-cases to `k` (Rust `to_lowercase` is Unicode-aware): `bl<K>size` is `blksize` -/
theorem c09_kelvin : OptionType.ofName (lowerName [0x62, 0x6C, 0xE2, 0x84, 0xAA, 0x73, 0x69, 0x7A, 0x65]) = some .blksize := by
  decide

/-- the sender configuration the server derives from the acknowledged options -/
def senderCfgOf (w : WorkerSpec) : SCfg :=
  { b := w.opts.blockSize, w := w.opts.windowSize, timeout := w.opts.timeoutS * 1000, rep := w.rep }

/-- **the transfer uses exactly the acknowledged values.** For a read request the server accepts, the
worker's parameters are the ones `parse_options` computed (the values in the OACK, `c09_oack_subset`),
and with those parameters — by C01 — every DATA block the transfer ever emits is a slice of the
file of exactly the acknowledged block length (the last one shorter), for every receive history. -/
theorem c09_transfer_uses_acked_values (cfg : SrvCfg) (fs : Fs) (name : Bytes) (os : List TransferOption)
    (w : WorkerSpec) (hw : (handleRrq cfg fs name os).worker = some w) :
    (∃ acked, parseWorkerOptions os (.read (fileSize fs (joinPath cfg.sendDir (convertFilePath name)))) =
        some (w.opts, acked)) ∧
    w.rep = cfg.dup + 1 ∧
    ∀ (f : Bytes) (chk : Bool) (evs : List (SEv × Nat)),
      ∀ g ∈ (sRun (senderCfgOf w) f chk evs).1, ∀ p ∈ g, GoodPkt (senderCfgOf w) f p := by
  rcases handleRrq_cases cfg fs name os with ⟨_, e⟩ | e | ⟨wo, acked, -, hp, e⟩ <;> rw [e] at hw
  · cases hw
  · cases hw
  · cases hw
    refine ⟨⟨acked, hp⟩, rfl, ?_⟩
    have hs := c09_worker_params_sane os _ wo acked hp
    intro f chk evs
    exact run_good (c := senderCfgOf _) (by show 0 < wo.blockSize; omega) (by show wo.windowSize < 65536; omega)
      f chk evs

/-! non-vacuity -/
example : parseWorkerOptions [{ option := .blksize, value := 1428 }, { option := .tsize, value := 0 }] (.read 777) =
    some ({ blockSize := 1428, transferSize := 777, timeoutS := 5, windowSize := 1 },
          [{ option := .blksize, value := 1428 }, { option := .tsize, value := 777 }]) := by decide
example : Unhonourable { option := .blksize, value := 7 } := Or.inl ⟨rfl, Or.inl (by decide)⟩

end Tftp
