import Tftp.Lemmas.Window
/-!
# C18 — Window buffer contract: ordered, bounded, loss-free chunk queue over a file
-/
namespace Tftp

theorem c18_new_read (size chunk : Nat) (f : Bytes) : WRead f 0 (Window.new size chunk (FileSt.openRead f)) :=
  WRead.new size chunk f

/-- **fill**: succeeds on a readable file, keeps the pieces already buffered, appends the next pieces of
the file in order without gap or repetition (piece `i` of the queue is bytes
`[(removed+i)·chunk, (removed+i+1)·chunk)`), never exceeds `size`, and reports `false` exactly when the
short (final) piece has been handed out -/
theorem c18_fill_in_order (f : Bytes) (r : Nat) (w : Window) (h : WRead f r w) (hc : 0 < w.chunk)
    (hs : w.size < 65536) :
    ∃ w' fl, w.fill = (w', .ok fl) ∧ WRead f r w' ∧ fl = !w'.eof ∧
      w'.size = w.size ∧ w'.chunk = w.chunk ∧ w.elems.length ≤ w'.elems.length ∧
      (∀ i, i < w.elems.length → w'.elems[i]? = w.elems[i]?) := by
  obtain ⟨w', hfill, hwr, hsz, hch, ⟨more, hmore⟩, -⟩ := h.fill hc hs
  exact ⟨w', _, hfill, hwr, rfl, hsz, hch, by simp [hmore], fun i hi => by rw [hmore, List.getElem?_append_left hi]⟩

/-- after the short piece, `fill` hands out nothing more (this is what failed before the repair) -/
theorem c18_no_piece_after_short (w : Window) (h : w.eof = true) : w.fill = (w, .ok false) := by
  unfold Window.fill; simp [h]

/-- **remove(k)** discards exactly the `k` oldest pieces; it fails, changing nothing, iff `k > len` -/
theorem c18_remove (w : Window) (k : Nat) (hs : w.elems.length < 65536) :
    (k ≤ w.elems.length → w.remove k = ({ w with elems := w.elems.drop k }, .ok ())) ∧
    (w.elems.length < k → w.remove k = (w, .err)) := by
  rw [← Window.len_eq hs]
  exact ⟨Window.remove_eq, Window.remove_gt⟩

theorem c18_remove_keeps_order (f : Bytes) (r : Nat) (w : Window) (h : WRead f r w) (k : Nat)
    (hk : k ≤ w.elems.length) : WRead f (r + k) { w with elems := w.elems.drop k } :=
  h.remove hk

/-- **add** fails, changing nothing, iff the buffer is full; otherwise the piece goes to the back -/
theorem c18_add (w : Window) (d : Bytes) (hs : w.elems.length < 65536) :
    (w.elems.length = w.size → w.add d = (w, .err)) ∧
    (w.elems.length ≠ w.size → w.add d = ({ w with elems := w.elems ++ [d] }, .ok ())) := by
  rw [← Window.len_eq hs]
  exact ⟨Window.add_full d, Window.add_eq d⟩

/-- **bounded**: `add` never makes the buffer hold more than `size` pieces (for `fill` and `remove` the bound is part of
`WRead`, kept by `c18_read_sequences`) -/
theorem c18_bounded_add (w : Window) (d : Bytes) (hs : w.size < 65536) (h : w.elems.length ≤ w.size) :
    (w.add d).1.elems.length ≤ (w.add d).1.size := by
  by_cases hf : w.len = w.size
  · rwa [Window.add_full d hf]
  · rw [Window.add_eq d hf]
    rw [Window.len_eq (by omega)] at hf
    simp; omega

/-- **empty** on a writable file appends all buffered pieces to the file in order and clears the buffer -/
theorem c18_empty (w : Window) (h : w.file.canWrite = true) :
    ∃ w', w.empty = (w', .ok ()) ∧ w'.elems = [] ∧ w'.file.content = w.file.content ++ w.elems.flatten :=
  ⟨_, Window.empty_eq h, rfl, foldl_write_content w.elems w.file⟩

/-- on a read-only handle `empty` fails and clears nothing as soon as a non-empty piece is buffered -/
theorem c18_empty_readonly (w : Window) (h : w.file.canWrite = false) (hne : ∃ d ∈ w.elems, d ≠ []) :
    w.empty = (w, .err) := by
  obtain ⟨d, hd, hdn⟩ := hne
  have : w.elems.any (fun d => !d.isEmpty) = true := List.any_eq_true.mpr ⟨d, hd, by simpa using hdn⟩
  simp [Window.empty, h, this]

inductive ROp where
  | fill
  | remove (k : Nat)
deriving Repr

def ROp.apply (w : Window) : ROp → Window
  | .fill => w.fill.1
  | .remove k => (w.remove k).1

/-- **every sequence of fill/remove operations** on a window over a readable file keeps the queue an
in-order, gap-free, repetition-free run of the file's pieces, bounded by `size` -/
theorem c18_read_sequences (size chunk : Nat) (hc : 0 < chunk) (hs : size < 65536) (f : Bytes) (ops : List ROp) :
    ∃ r, WRead f r (ops.foldl ROp.apply (Window.new size chunk (FileSt.openRead f))) ∧
      (ops.foldl ROp.apply (Window.new size chunk (FileSt.openRead f))).size = size ∧
      (ops.foldl ROp.apply (Window.new size chunk (FileSt.openRead f))).chunk = chunk := by
  suffices key : ∀ (ops : List ROp) (w : Window) (r : Nat), WRead f r w → w.size = size → w.chunk = chunk →
      ∃ r', WRead f r' (ops.foldl ROp.apply w) ∧ (ops.foldl ROp.apply w).size = size ∧
        (ops.foldl ROp.apply w).chunk = chunk from key ops _ 0 (WRead.new size chunk f) rfl rfl
  intro ops
  induction ops with
  | nil => exact fun w r h h1 h2 => ⟨r, h, h1, h2⟩
  | cons o os ih =>
    intro w r h h1 h2
    rw [List.foldl_cons]
    cases o with
    | fill =>
      obtain ⟨w', hf, hw', hsz, hch, -⟩ := h.fill (by omega) (by omega)
      rw [ROp.apply, hf]
      exact ih w' r hw' (hsz.trans h1) (hch.trans h2)
    | remove k =>
      by_cases hk : k ≤ w.len
      · rw [ROp.apply, Window.remove_eq hk]
        exact ih _ (r + k) (h.remove (h.len_eq (by omega) ▸ hk)) h1 h2
      · rw [ROp.apply, Window.remove_gt (Nat.lt_of_not_le hk)]
        exact ih w r h h1 h2

inductive WOp where
  | add (d : Bytes)
  | empty
deriving Repr

def WOp.apply (w : Window) : WOp → Window
  | .add d => (w.add d).1
  | .empty => w.empty.1

/-- the bytes the buffer took over during a sequence of `add`/`empty` calls: the argument of every `add`
that did not fail, in call order -/
def takenOver : Window → List WOp → Bytes
  | _, [] => []
  | w, .add d :: ops => (if w.len = w.size then [] else d) ++ takenOver (w.add d).1 ops
  | w, .empty :: ops => takenOver w.empty.1 ops

/-- **every sequence of add/empty operations** on a window over a writable file: file content followed by
the buffered pieces is always exactly what was there before followed by the pieces the buffer accepted, in
order, once each (nothing lost, repeated or reordered by `empty`); the buffer never holds more than `size` -/
theorem c18_write_sequences (ops : List WOp) (w : Window) (hs : w.size < 65536) (hl : w.elems.length ≤ w.size)
    (hw : w.file.canWrite = true) :
    (ops.foldl WOp.apply w).file.content ++ (ops.foldl WOp.apply w).elems.flatten
        = w.file.content ++ w.elems.flatten ++ takenOver w ops ∧
      (ops.foldl WOp.apply w).elems.length ≤ w.size ∧ (ops.foldl WOp.apply w).size = w.size := by
  induction ops generalizing w with
  | nil => simp [takenOver, hl]
  | cons o os ih =>
    rw [List.foldl_cons]
    cases o with
    | add d =>
      by_cases hf : w.len = w.size
      · simpa [takenOver, WOp.apply, Window.add_full d hf, hf] using ih w hs hl hw
      · have hlt : w.elems.length < w.size := by rw [Window.len_eq (by omega)] at hf; omega
        simpa [takenOver, WOp.apply, Window.add_eq d hf, hf, List.append_assoc] using
          ih { w with elems := w.elems ++ [d] } hs (by simpa using Nat.succ_le_of_lt hlt) hw
    | empty =>
      simpa [takenOver, WOp.apply, Window.empty_eq hw, foldl_write_content] using
        ih { w with elems := [], file := w.elems.foldl FileSt.write w.file } hs (by simp)
          ((foldl_write_canWrite _ _).trans hw)

/-- from a freshly created file: at every moment content ++ buffered pieces = everything accepted so far -/
theorem c18_write_sequences_created (size chunk : Nat) (hs : size < 65536) (ops : List WOp) :
    let w := ops.foldl WOp.apply (Window.new size chunk FileSt.create)
    w.file.content ++ w.elems.flatten = takenOver (Window.new size chunk FileSt.create) ops ∧ w.elems.length ≤ size := by
  have := c18_write_sequences ops (Window.new size chunk FileSt.create) hs (by simp [Window.new]) rfl
  simpa [Window.new, FileSt.create, FileSt.content] using this.imp id And.left

/-! non-vacuity: add, add (refused: full), empty, add on a window of size 1 -/
example : (([WOp.add [1, 2], WOp.add [3], WOp.empty, WOp.add [4]].foldl WOp.apply (Window.new 1 8 FileSt.create)).file.content,
    ([WOp.add [1, 2], WOp.add [3], WOp.empty, WOp.add [4]].foldl WOp.apply (Window.new 1 8 FileSt.create)).elems,
    takenOver (Window.new 1 8 FileSt.create) [WOp.add [1, 2], WOp.add [3], WOp.empty, WOp.add [4]]) =
    ([1, 2], [[4]], [1, 2, 4]) := by decide

/-! non-vacuity: the unit test's sequence -/
example : ((Window.new 2 5 (FileSt.openRead [72, 101, 108, 108, 111, 44, 32, 119, 111, 114, 108, 100, 33])).fill.1.remove 1).1.fill.1.elems =
    [[44, 32, 119, 111, 114], [108, 100, 33]] := by decide

end Tftp
