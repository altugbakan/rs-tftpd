import Tftp.Lemmas.NetLoss
/-!
# C07 — Termination: transfers end at the final block, on ERROR, or after bounded retry
-/
namespace Tftp

/-- once ended (`Ok` or `Err` returned) the worker emits nothing and never changes again -/
theorem c07_quiet_after_end (c : SCfg) (s : SState) (ev : SEv) (dt : Nat)
    (h : s.status = .ok ∨ s.status = .failed) : sStep c s ev dt = (s, []) :=
  sStep_ended c s ev dt h

theorem c07_quiet_run_after_end (c : SCfg) (s : SState) (evs : List (SEv × Nat))
    (h : s.status = .ok ∨ s.status = .failed) :
    (sRunFrom c s evs).2 = s ∧ ∀ g ∈ (sRunFrom c s evs).1, g = [] := by
  induction evs with
  | nil => simp [sRunFrom]
  | cons e es ih =>
    simp only [sRunFrom, sStep_ended c s e.1 e.2 h]
    exact ⟨ih.1, fun g hg => (List.mem_cons.mp hg).elim id (ih.2 g)⟩

/-- a peer ERROR ends the transfer at once, in the data phase and in the handshake, with no output -/
theorem c07_stop_on_error (c : SCfg) (s : SState) (dt : Nat) (h : s.status = .running ∨ s.status = .handshake) :
    (sStep c s .error dt).1.status = .failed ∧ (sStep c s .error dt).2 = [] := by
  rcases h with h | h
  · rw [sStep_error_eq c dt h]; exact ⟨rfl, rfl⟩
  · simp [sStep, h]

/-- reply to the OACK: only ACK 0 (or a stray non-ACK, non-ERROR packet) starts the data phase;
ERROR, a failed receive, or ACK n ≠ 0 end the transfer without a single DATA
(ACK n ≠ 0 is answered by exactly one ERROR 4) -/
theorem c07_handshake (c : SCfg) (s : SState) (ev : SEv) (dt : Nat) (h : s.status = .handshake) :
    (ev = .error ∨ ev = .fail → sStep c s ev dt = ({ s with status := .failed }, [])) ∧
    (∀ n, n ≠ 0 → sStep c s (.ack n) dt = ({ s with status := .failed }, [illegalOp])) ∧
    (ev = .ack 0 ∨ ev = .other → sStep c s ev dt = sOuter c { s with status := .running }) := by
  unfold sStep
  refine ⟨?_, ?_, ?_⟩
  · rintro (rfl | rfl) <;> simp [h]
  · intro n hn; simp [h, hn]
  · rintro (rfl | rfl) <;> simp [h]

/-- the sender never emits a block beyond the file's final block `N` -/
theorem c07_never_beyond_final (c : SCfg) (hb : 0 < c.b) (hw : c.w < 65536) (f : Bytes) (chk : Bool)
    (evs : List (SEv × Nat)) :
    ∀ g ∈ (sRun c f chk evs).1, ∀ p ∈ g, ∀ n d, p = .data n d →
      ∃ k, 1 ≤ k ∧ k ≤ nblocks c.b f ∧ n = k % 65536 ∧ d = blk c.b f k := by
  rintro g hg p hp n d rfl
  rcases run_good hb hw f chk evs g hg _ hp with ⟨k, h1, h2, h3⟩ | h
  · exact ⟨k, h1, h2, Packet.data.inj h3⟩
  · cases h

/-- an acknowledgement of the last outstanding block when the final block has been read
ends the transfer successfully with no further output -/
theorem c07_stop_on_final_ack (c : SCfg) (hw : c.w < 65536) (f : Bytes) (s : SState) (h : SInv c f s)
    (hrun : s.status = .running) (heof : s.win.eof = true) (hne : 0 < s.win.elems.length)
    (n dt : Nat) (hn : (n + 65536 - s.bn) % 65536 = s.win.elems.length - 1) :
    (sStep c s (.ack n) dt).1.status = .ok ∧ (sStep c s (.ack n) dt).2 = [] := by
  rw [sStep_ack_eq hw h hrun n dt hn (by omega), if_pos]
  · exact ⟨rfl, rfl⟩
  · simp [h.filled_eq, heof, show s.win.elems.length ≤ s.win.elems.length - 1 + 1 by omega]

/-- **bounded silence**: from every running state, `MAX_RETRIES` consecutive failed receive attempts
(time-outs, undecodable or stray datagrams) end the transfer — it never waits or retransmits forever -/
theorem c07_bounded_silence (c : SCfg) (f : Bytes) :
    ∀ (evs : List (SEv × Nat)) (s : SState), SInv c f s → s.status = .running →
      (∀ e ∈ evs, e.1 = .fail ∨ e.1 = .other) → Gen.maxRetries - s.retry ≤ evs.length →
      (sRunFrom c s evs).2.status = .failed := by
  intro evs s h hrun
  -- of the invariant only `retry < MAX_RETRIES` matters
  have hlt := h.retry_lt (by simp [hrun])
  clear h
  induction evs generalizing s with
  | nil => intro _ hlen; simp at hlen; omega
  | cons e es ih =>
    intro hall hlen
    show (sRunFrom c (sStep c s e.1 e.2).1 es).2.status = .failed
    rw [sStep_fail e.2 hrun (hall e List.mem_cons_self)]
    split
    · rw [(c07_quiet_run_after_end c { s with since := s.since + e.2, retry := s.retry + 1, status := .failed } es (Or.inr rfl)).1]
    · rw [sHead_fst]
      exact ih _ hrun (by show s.retry + 1 < _; omega) (fun x hx => hall x (List.mem_cons_of_mem _ hx))
        (by simp only [List.length_cons] at hlen; show _ - (s.retry + 1) ≤ _; omega)

/-- the retry budget is positive and is what the source says (`MAX_RETRIES`) -/
theorem c07_max_retries_pos : 0 < Gen.maxRetries := maxRetries_pos

theorem c07_receiver_quiet_after_end (c : RCfg) (s : RState) (ev : REv)
    (h : s.status = .ok ∨ s.status = .failed) : rStep c s ev = (s, []) :=
  rStep_ended c s ev h

theorem c07_receiver_stop_on_error (c : RCfg) (s : RState) (h : s.status = .running) :
    (rStep c s .error).1.status = .failed ∧ (rStep c s .error).2 = [] := by
  rw [rStep_error c h]; exact ⟨rfl, rfl⟩

/-- the final (short) block is flushed, acknowledged, and the receiver ends — nothing more follows -/
theorem c07_receiver_stops_after_final (c : RCfg) (s : RState) (n : Nat) (payload : Bytes)
    (hrun : s.status = .running) (hseq : n = (s.bn + 1) % 65536) (hshort : payload.length < c.b) :
    (rStep c s (.data n payload)).1.status = .ok ∨ (rStep c s (.data n payload)).1.status = .failed := by
  obtain h | ⟨w, h⟩ := rStep_inseq_frame c hrun n payload hseq
  · exact Or.inr h
  · exact Or.inl (by rw [h, if_pos hshort])

/-- bounded silence, receiving side -/
theorem c07_receiver_bounded_silence (c : RCfg) :
    ∀ (n : Nat) (s : RState), s.status = .running → s.retry < Gen.maxRetries →
      Gen.maxRetries - s.retry ≤ n →
      (rRunFrom c s (List.replicate n .fail)).2.status = .failed := by
  intro n
  induction n with
  | zero => intro s _ hlt hlen; omega
  | succ n ih =>
    intro s hrun hlt hlen
    show (rRunFrom c (rStep c s .fail).1 (List.replicate n .fail)).2.status = .failed
    rw [rStep_fail c hrun]
    split
    · rw [rRunFrom_ended c (Or.inr rfl)]
    · exact ih _ hrun (by show s.retry + 1 < _; omega) (by show _ - (s.retry + 1) ≤ _; omega)

/-- **no schedule makes a transfer run for ever**: in the closed loop of the two models, for every file, block
size, window size and for every schedule of lost and duplicated datagrams (unbounded), there is a point at which
both sides have ended (neither is running any more) -/
theorem c07_closed_loop_always_ends (sc : SCfg) (rc : RCfg) (hb : 0 < sc.b) (hw1 : 1 ≤ sc.w) (hw : sc.w < 65536)
    (hrep : sc.rep = 1) (ht : 0 < sc.timeout) (hrb : rc.b = sc.b) (hrw : rc.w = sc.w) (hrrep : rc.rep = 1)
    (fl : Faults) (f : Bytes) :
    ∃ fuel,
      senderRunning (netRun sc rc fl fuel (netInit sc rc fl f)).s = false ∧
      receiverRunning (netRun sc rc fl fuel (netInit sc rc fl f)).r = false := by
  obtain ⟨fuel, h⟩ := closed_loop_end sc rc ⟨⟨hb, hw1, hw, hrep, hrb, hrw, hrrep⟩, ht⟩ fl f
  exact ⟨fuel, senderRunning_of_ended h.not_running.1, receiverRunning_of_not_running h.not_running.2⟩

end Tftp
