import Tftp.Model.Reassemble
import Tftp.Props.C11
import Tftp.Lemmas.NetSafety
import Tftp.Lemmas.NetLoss
/-!
# C01 — Download fidelity

`sRun c f chk evs` is the whole observable behaviour of `Worker::send_file` on file `f` for the
receive history `evs` (every list of ACK numbers — also bogus ones —, ERRORs, stray packets, failed
receives and elapsed times), with (`chk = true`) or without the OACK handshake.
-/
namespace Tftp

/-- Every datagram the sender ever emits — for every file, block size ≥ 1, window size ≤ 65535,
repeat count and receive history — is DATA `(k mod 65536, bytes [(k-1)·b, k·b) of the file)` for
some `1 ≤ k ≤ N` (or the one ERROR 4 of the handshake). -/
theorem c01_data_is_slice (c : SCfg) (hb : 0 < c.b) (hw : c.w < 65536) (f : Bytes) (chk : Bool)
    (evs : List (SEv × Nat)) :
    ∀ g ∈ (sRun c f chk evs).1, ∀ p ∈ g, GoodPkt c f p :=
  run_good hb hw f chk evs

/-- `blk k` is literally the file bytes `[(k-1)·b, k·b)` -/
theorem c01_blk_is_file_range (b : Nat) (f : Bytes) (k : Nat) :
    blk b f k = (f.drop ((k - 1) * b)).take b := rfl

/-- the last block of the transfer is the first one shorter than `blksize`
(empty when the size is an exact multiple); nothing beyond it is ever sent (`k ≤ N` above) -/
theorem c01_last_is_first_short (b : Nat) (hb : 0 < b) (f : Bytes) (k : Nat) (hk1 : 1 ≤ k)
    (hk : k ≤ nblocks b f) : (blk b f k).length < b ↔ k = nblocks b f :=
  blk_length_lt_iff b hb f k hk1 hk

theorem c01_exact_multiple_ends_empty (b : Nat) (hb : 0 < b) (f : Bytes) (h : f.length % b = 0) :
    blk b f (nblocks b f) = [] := by
  have := Nat.div_add_mod f.length b
  have := Nat.mod_lt f.length hb
  apply List.eq_nil_of_length_eq_zero
  rw [blk, slice_length, nblocks, Nat.add_sub_cancel, Nat.mul_comm]
  omega

/-- on the wire: opcode 3, block number big-endian, then exactly the payload -/
theorem c01_wire_layout (n : Nat) (d : Bytes) :
    encode (.data n d) = [0, 3, UInt8.ofNat (n / 256), UInt8.ofNat (n % 256)] ++ d :=
  c11_layout_data n d

/-! ### reassembly: any loss, duplication and reordering of the emitted datagrams -/

structure RxInv (b : Nat) (f : Bytes) (r : RxClient) : Prop where
  pos : 1 ≤ r.next
  acc_eq : r.acc = f.take ((r.next - 1) * b)
  done_all : r.done = true → r.next - 1 = nblocks b f
  open_lt : r.done = false → r.next - 1 < nblocks b f

theorem rx_step_inv (c : SCfg) (hb : 0 < c.b) (f : Bytes) (hN : nblocks c.b f ≤ 65535) (r : RxClient)
    (p : Packet) (hp : GoodPkt c f p) (h : RxInv c.b f r) : RxInv c.b f (RxClient.step c.b r p) := by
  rcases hp with ⟨k, hk1, hkN, rfl⟩ | rfl
  · rw [RxClient.step]
    by_cases hdone : r.done = true
    · rwa [if_pos hdone]
    · have hlt := h.open_lt (by simpa using hdone)
      have hpos := h.pos
      rw [if_neg hdone]
      by_cases heq : k % 65536 = r.next % 65536
      · -- below 65536 blocks the number identifies the block
        obtain rfl : r.next = k := by omega
        have hshort := blk_length_lt_iff c.b hb f r.next hk1 hkN
        rw [if_pos heq]
        refine ⟨Nat.succ_pos _, ?_, fun hd => ?_, fun hd => ?_⟩
        · rw [Nat.add_sub_cancel, h.acc_eq, blk, take_succ_block, Nat.sub_add_cancel hpos]
        · exact hshort.mp (by simpa using hd)
        · have := mt hshort.mpr (by simpa using hd)
          show r.next + 1 - 1 < _
          omega
      · rwa [if_neg heq]
  · exact h

/-- **Reassembly (transfers of at most 65535 blocks).** Take the datagrams the sender emitted under
any receive history, apply any loss, duplication and reordering (`ps` is *any* list drawn from
them): a client that reassembles in-order blocks holds a prefix of the file made of whole blocks,
and when it considers the copy complete the copy is byte-identical. Never a corrupted one. -/
theorem c01_reassembly_small (c : SCfg) (hb : 0 < c.b) (hw : c.w < 65536) (f : Bytes) (chk : Bool)
    (evs : List (SEv × Nat)) (hN : nblocks c.b f ≤ 65535) (ps : List Packet)
    (hsub : ∀ p ∈ ps, ∃ g ∈ (sRun c f chk evs).1, p ∈ g) :
    (reassemble c.b ps).acc = f.take (((reassemble c.b ps).next - 1) * c.b) ∧
    ((reassemble c.b ps).done = true → (reassemble c.b ps).acc = f) := by
  have hgood : ∀ p ∈ ps, GoodPkt c f p := fun p hp =>
    have ⟨g, hg, hpg⟩ := hsub p hp
    c01_data_is_slice c hb hw f chk evs g hg p hpg
  clear hsub
  have hinv : RxInv c.b f (reassemble c.b ps) := by
    unfold reassemble
    have h0 : RxInv c.b f RxClient.init :=
      ⟨Nat.le_refl _, by simp [RxClient.init], fun h => (nomatch h), fun _ => nblocks_pos _ _⟩
    suffices key : ∀ r, RxInv c.b f r → RxInv c.b f (ps.foldl (RxClient.step c.b) r) from key _ h0
    induction ps with
    | nil => exact fun r h => h
    | cons p ps ih =>
      exact fun r h => ih (fun q hq => hgood q (List.mem_cons_of_mem _ hq)) _
        (rx_step_inv c hb f hN r p (hgood p List.mem_cons_self) h)
  exact ⟨hinv.acc_eq, fun hd => by rw [hinv.acc_eq, hinv.done_all hd, take_all_blocks c.b hb f]⟩

/-! non-vacuity: a concrete run -/
example : (sRun { b := 2, w := 2, timeout := 5000, rep := 1 } [1, 2, 3] false [(.ack 1, 0), (.ack 2, 0)]).1 =
    [[.data 1 [1, 2], .data 2 [3]], [.data 2 [3]], []] := by decide

/-- **never a corrupted copy, in the closed loop**: the download's receiver (the bundled client's
`receive_file`, or any receiver that behaves like the model) fed by this sender through a network that
loses and duplicates datagrams at will ends with a byte-identical copy or with no completed copy -/
theorem c01_closed_loop_no_corruption (sc : SCfg) (rc : RCfg) (hb : 0 < sc.b) (hw1 : 1 ≤ sc.w) (hw : sc.w < 65536)
    (hrb : rc.b = sc.b) (hrw : rc.w = sc.w) (fl : Faults) (f : Bytes) (hN : nblocks sc.b f ≤ 65535) (fuel : Nat) :
    (netRun sc rc fl fuel (netInit sc rc fl f)).r.status = .ok →
      (netRun sc rc fl fuel (netInit sc rc fl f)).r.win.file.content = f :=
  (closed_loop_safety sc rc hb hw1 hw hrb hrw fl f hN fuel).2

/-- **the outcome of a download through a lossy network, any length**: under every schedule of lost and duplicated
datagrams (one copy per datagram sent, positive retransmission interval) there is a point at which the receiving side
reports success over a byte-identical copy, or reports failure -/
theorem c01_closed_loop_outcome (sc : SCfg) (rc : RCfg) (hb : 0 < sc.b) (hw1 : 1 ≤ sc.w) (hw : sc.w < 65536)
    (hrep : sc.rep = 1) (ht : 0 < sc.timeout) (hrb : rc.b = sc.b) (hrw : rc.w = sc.w) (hrrep : rc.rep = 1)
    (fl : Faults) (f : Bytes) :
    ∃ fuel,
      ((netRun sc rc fl fuel (netInit sc rc fl f)).r.status = .ok ∧
        (netRun sc rc fl fuel (netInit sc rc fl f)).r.win.file.content = f) ∨
      (netRun sc rc fl fuel (netInit sc rc fl f)).r.status = .failed := by
  obtain ⟨fuel, h⟩ := closed_loop_total sc rc ⟨⟨hb, hw1, hw, hrep, hrb, hrw, hrrep⟩, ht⟩ fl f
  refine ⟨fuel, ?_⟩
  rcases h with ⟨h1, h2, _⟩ | ⟨h1, _⟩
  · exact Or.inl ⟨h1, h2⟩
  · exact Or.inr h1

/-- **never a wrong copy reported complete - at any moment, for any length**: under every schedule of lost and
duplicated datagrams, after any number of steps of the closed loop, if the receiving side reports success its file is
byte-identical to the sender's. No bound on the number of blocks, so also beyond the 16-bit wrap; in exchange for the
bound of `c04_closed_loop_safety` the hypotheses are those of the FIFO loop theorems: repeat count 1 and a positive
retransmission interval. -/
theorem c01_never_a_wrong_copy (sc : SCfg) (rc : RCfg) (hb : 0 < sc.b) (hw1 : 1 ≤ sc.w) (hw : sc.w < 65536)
    (hrep : sc.rep = 1) (ht : 0 < sc.timeout) (hrb : rc.b = sc.b) (hrw : rc.w = sc.w) (hrrep : rc.rep = 1)
    (fl : Faults) (f : Bytes) (fuel : Nat) :
    (netRun sc rc fl fuel (netInit sc rc fl f)).r.status = .ok →
      (netRun sc rc fl fuel (netInit sc rc fl f)).r.win.file.content = f :=
  (closed_loop_phase sc rc ⟨⟨hb, hw1, hw, hrep, hrb, hrw, hrrep⟩, ht⟩ fl f fuel).safe.1

/-- **what has been accepted is always a prefix of the file - at every moment, for any length**: the accepted-prefix
half of `c04_closed_loop_safety` without its 65535-block bound but with repeat count 1 and a positive retransmission
interval, like the theorem before (the open-system statement with reordering keeps the bound) -/
theorem c01_accepted_prefix_any_length (sc : SCfg) (rc : RCfg) (hb : 0 < sc.b) (hw1 : 1 ≤ sc.w) (hw : sc.w < 65536)
    (hrep : sc.rep = 1) (ht : 0 < sc.timeout) (hrb : rc.b = sc.b) (hrw : rc.w = sc.w) (hrrep : rc.rep = 1)
    (fl : Faults) (f : Bytes) (fuel : Nat) :
    (netRun sc rc fl fuel (netInit sc rc fl f)).r.received =
      blocksUpTo sc.b f (netRun sc rc fl fuel (netInit sc rc fl f)).r.received.length :=
  hrb ▸ (closed_loop_phase sc rc ⟨⟨hb, hw1, hw, hrep, hrb, hrw, hrrep⟩, ht⟩ fl f fuel).safe.2.2

end Tftp
