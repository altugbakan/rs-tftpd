import Tftp.Lemmas.Receiver
/-!
# C02 — Upload fidelity: stored file = in-order blocks once each; ACK implies stored

`RReach c s`: `s` is reachable by `receive_file` under *some* arrival history — any sequence of DATA
datagrams with arbitrary numbers and payloads (duplicates, reordering, blocks from the future),
peer ERRORs, and failed receives (time-outs, undecodable datagrams, stray ACK/OACK/requests).
-/
namespace Tftp

/-- **ACK implies stored, and only in-sequence blocks are acknowledged.** In every reachable state, for
every next event: each ACK the receiver emits carries `K mod 65536` where `K` is the number of blocks
received in sequence so far, and at that instant the file on disk already equals the concatenation
of those `K` payloads in order (nothing is left pending in memory). -/
theorem c02_ack_implies_stored (c : RCfg) (hw1 : 1 ≤ c.w) (hw : c.w < 65536) (s : RState) (h : RReach c s)
    (ev : REv) :
    ∀ a ∈ (rStep c s ev).2,
      a.n = (rStep c s ev).1.received.length % 65536 ∧
      a.file.content = (rStep c s ev).1.received.flatten ∧
      (rStep c s ev).1.win.elems = [] :=
  (rStep_good c hw s (rreach_inv c hw1 hw s h) ev).2.1

/-- **each block once, in order.** The list of accepted payloads changes only by appending the payload
of a DATA datagram whose number is (count so far + 1) mod 65536; duplicates, blocks from the future,
stray packets and failures never reach the file. -/
theorem c02_accept_in_sequence (c : RCfg) (hw1 : 1 ≤ c.w) (hw : c.w < 65536) (s : RState) (h : RReach c s)
    (ev : REv) :
    (rStep c s ev).1.received = s.received ∨
    ∃ n p, ev = .data n p ∧ n = (s.received.length + 1) % 65536 ∧ (rStep c s ev).1.received = s.received ++ [p] :=
  (rStep_good c hw s (rreach_inv c hw1 hw s h) ev).2.2.imp_right fun ⟨n, p, _, h⟩ => ⟨n, p, h⟩

/-- what is on disk plus what is pending in the window is always exactly the accepted payloads in
order: the file only ever grows by appending them -/
theorem c02_file_is_prefix (c : RCfg) (hw1 : 1 ≤ c.w) (hw : c.w < 65536) (s : RState) (h : RReach c s) :
    s.win.file.content ++ s.win.elems.flatten = s.received.flatten :=
  (rreach_inv c hw1 hw s h).stored

/-- **final file.** When the receiver ends successfully the file equals the concatenation of the
accepted payloads; the last one is the first short one, all earlier ones are full blocks. -/
theorem c02_final_file (c : RCfg) (hw1 : 1 ≤ c.w) (hw : c.w < 65536) (s : RState) (h : RReach c s)
    (hok : s.status = .ok) :
    s.win.file.content = s.received.flatten ∧
    ∃ p rest, s.accepted = p :: rest ∧ p.length < c.b ∧ ∀ q ∈ rest, c.b ≤ q.length := by
  have hi := rreach_inv c hw1 hw s h
  exact ⟨hi.ok_content hok, (hi.ok_final hok).2⟩

/-- **conformant sender, at most 65535 blocks.** If every DATA datagram that arrives — in whatever
order, with whatever loss and duplication — is a block `(k mod 65536, blk k)` of one file `f`, then in
every reachable state the accepted payloads are exactly blocks `1..j` of `f` in order, and a successful
end means the stored file is byte-identical to `f`. -/
theorem c02_conformant_sender (c : RCfg) (hb : 0 < c.b) (hw1 : 1 ≤ c.w) (hw : c.w < 65536) (f : Bytes)
    (hN : nblocks c.b f ≤ 65535) (s : RState) (h : RReachFrom c f s) :
    s.received = (List.range s.received.length).map (fun i => blk c.b f (i + 1)) ∧
    s.received.length ≤ nblocks c.b f ∧
    (s.status = .ok → s.win.file.content = f) :=
  h.prefix hb hw1 hw hN

/-- what a `UdpSocket`'s `recv_with_size(blk_size)` hands to the worker: the datagram read into `blk_size + 4` bytes, i.e. a DATA payload
longer than the block size is cut to it (a peer that ignores what it acknowledged; the kernel's truncation is assumed, DESIGN.md section 7) -/
def REv.cut (b : Nat) : REv → REv
  | .data n p => .data n (p.take b)
  | e => e

/-- **over-long DATA is cut, never stored in excess**: whatever the peer sends, every block the receiver accepts and stores has at most
block-size bytes (so a file of k accepted blocks is at most k·b bytes long, and an over-long block counts as a full one) -/
theorem c02_oversize_data_is_cut (c : RCfg) (hw1 : 1 ≤ c.w) (hw : c.w < 65536) (evs : List REv) :
    ∀ p ∈ (rRun c (evs.map (REv.cut c.b))).2.accepted, p.length ≤ c.b := by
  -- along the run: the invariant (for `rStep_good`), and every accepted payload is that of a cut event
  have hstep : ∀ s, ∀ ev ∈ evs.map (REv.cut c.b), (RInv c s ∧ ∀ p ∈ s.received, p.length ≤ c.b) →
      RInv c (rStep c s ev).1 ∧ ∀ p ∈ (rStep c s ev).1.received, p.length ≤ c.b := by
    intro s ev hev ⟨hinv, h⟩
    obtain ⟨hinv', -, hacc⟩ := rStep_good c hw s hinv ev
    refine ⟨hinv', ?_⟩
    rcases hacc with hacc | ⟨n, p, -, rfl, -, hacc⟩
    · rwa [hacc]
    · obtain ⟨e, -, he⟩ := List.mem_map.mp hev
      rw [hacc]
      intro q hq
      rcases List.mem_append.mp hq with hq | hq
      · exact h q hq
      · obtain rfl := List.mem_singleton.mp hq
        cases e with
        | data n' p' => cases he; rw [List.length_take]; exact Nat.min_le_left _ _
        | error | fail => cases he
  exact fun p hp => (rRunFrom_inv _ hstep ⟨rInit_inv c hw1, fun _ hp => nomatch hp⟩).2 p (List.mem_reverse.mpr hp)

/-! non-vacuity: a reachable successful state with duplicates and a stray failure on the way -/
example : (rRun { b := 2, w := 2, rep := 1, cleanOnError := true }
    [.data 1 [1, 2], .data 1 [1, 2], .fail, .data 2 [3, 4], .data 3 [5]]).2.status = .ok := by decide

end Tftp
