import Tftp.Lemmas.CodecTotal
import Tftp.Props.C11
/-!
# C10 — Decoder totality: any byte string decodes to a packet or an error, never a panic

`decode` mirrors `Packet::deserialize` slice for slice; every `buf[a..]`, `buf[a..b]` and
`buf.len() - 1` of the Rust source is a point where the model can return `Outcome.panic`.
-/
namespace Tftp

/-- no byte string makes the decoder panic (slice out of bounds, subtraction underflow, or
non-termination of the option loop) -/
theorem c10_total (buf : Bytes) : decode buf ≠ .panic := by
  obtain e | ⟨p, e, -⟩ := decode_spec buf <;> rw [e] <;> nofun

/-- so the result is a packet or an error -/
theorem c10_result (buf : Bytes) : decode buf = .err ∨ ∃ p, decode buf = .ok p :=
  (decode_spec buf).imp_right fun ⟨p, h, _⟩ => ⟨p, h⟩

/-- whatever is accepted is a well-formed packet … -/
theorem c10_accepted_wf (buf : Bytes) (p : Packet) (h : decode buf = .ok p) : WF p := by
  obtain e | ⟨q, e, hq⟩ := decode_spec buf <;> rw [e] at h
  · cases h
  · cases h; exact hq

/-- … and is stable: re-encoding it and decoding again yields the same packet -/
theorem c10_stable (buf : Bytes) (p : Packet) (h : decode buf = .ok p) : decode (encode p) = .ok p :=
  decode_encode p (c10_accepted_wf buf p h)

theorem c10_reject_short (buf : Bytes) (h : buf.length < 2) : decode buf = .err := by
  rw [decode, if_pos h]

theorem c10_reject_opcode (b0 b1 : UInt8) (rest : Bytes)
    (h : ¬ (1 ≤ b0.toNat * 256 + b1.toNat ∧ b0.toNat * 256 + b1.toNat ≤ 6)) :
    decode (b0 :: b1 :: rest) = .err := by
  rw [decode_cons rfl, Option.not_isSome_iff_eq_none.mp (mt (c11_opcode_range _).mp h)]

/-- DATA, ACK and ERROR shorter than their 4-byte fixed header are rejected -/
theorem c10_reject_short_header (op : UInt8) (tail : Bytes) (hop : op = 3 ∨ op = 4 ∨ op = 5)
    (h : tail.length < 2) : decode (0 :: op :: tail) = .err := by
  have ht : toU16 tail = none := by
    match tail, h with
    | [], _ | [_], _ => rfl
  rcases hop with rfl | rfl | rfl
  · rw [decode_cons (op := 3) rfl, ht]; rfl
  · rw [decode_cons (op := 4) rfl, ht]; rfl
  · rw [decode_cons (op := 5) rfl, ht]; rfl

/-- ERROR with a code above 7 is rejected -/
theorem c10_reject_error_code (c0 c1 : UInt8) (tail : Bytes) (h : 7 < c0.toNat * 256 + c1.toNat) :
    decode (0 :: 5 :: c0 :: c1 :: tail) = .err := by
  have hc : ErrorCode.ofU16 (c0.toNat * 256 + c1.toNat) = none :=
    Option.not_isSome_iff_eq_none.mp (mt (c11_errorcode_range _).mp (Nat.not_le.mpr h))
  rw [decode_cons (op := 5) rfl]
  simp only [toU16, hc]
  rfl

theorem decode_rq {op : UInt8} (hop : op = 1 ∨ op = 2) (tail : Bytes) :
    ∃ isRrq, decode (0 :: op :: tail) = parseRq (0 :: op :: tail) isRrq := by
  rcases hop with rfl | rfl
  · exact ⟨true, decode_cons (op := 1) rfl _⟩
  · exact ⟨false, decode_cons (op := 2) rfl _⟩

/-- a request whose file name has no NUL terminator is rejected -/
theorem c10_reject_rq_missing_nul (op : UInt8) (tail : Bytes) (hop : op = 1 ∨ op = 2)
    (h : (0 : UInt8) ∉ tail) : decode (0 :: op :: tail) = .err := by
  obtain ⟨isRrq, e⟩ := decode_rq hop tail
  rw [e, parseRq, toStr_no_nul (buf := 0 :: op :: tail) (i := 2) (by simp) h]

/-- a request whose mode string has no NUL terminator is rejected -/
theorem c10_reject_rq_mode_missing_nul (op : UInt8) (name tail : Bytes) (hop : op = 1 ∨ op = 2)
    (hn : (0 : UInt8) ∉ name) (h : (0 : UInt8) ∉ tail) : decode (0 :: op :: (name ++ 0 :: tail)) = .err := by
  obtain ⟨isRrq, e⟩ := decode_rq hop (name ++ 0 :: tail)
  have hd : (0 :: op :: (name ++ 0 :: tail)).drop 2 = name ++ 0 :: tail := rfl
  rw [e, parseRq, toStr_of_drop hd hn]
  by_cases hv : validUtf8 name = true
  · rw [if_pos hv]
    dsimp only
    rw [toStr_no_nul (Nat.succ_le_of_lt (lt_of_drop hd)) (by rw [drop_after hd]; exact h)]
  · rw [if_neg hv]

/-- wherever in a buffer the loop meets a recognised option whose value is not `[+]digits < 2^64`,
it ends with an error -/
theorem parseOptions_bad_value {buf name value rest : Bytes} {zi : Nat} {t : OptionType}
    (hd : buf.drop (zi + 1) = name ++ 0 :: (value ++ 0 :: rest))
    (hn0 : (0 : UInt8) ∉ name) (hv0 : (0 : UInt8) ∉ value)
    (hname : OptionType.ofName (lowerName name) = some t) (hval : parseUsize value = none)
    (fuel : Nat) (acc : List TransferOption) : parseOptions buf (fuel + 1) zi acc = .err := by
  rw [parseOptions_succ (Nat.lt_of_le_of_lt (Nat.le_add_right _ _) (lt_of_drop hd)),
    toStr_of_drop hd hn0]
  by_cases hv : validUtf8 name = true
  · rw [if_pos hv]
    dsimp only
    rw [toStr_of_drop (drop_after hd) hv0]
    by_cases hv' : validUtf8 value = true
    · rw [if_pos hv']
      dsimp only
      rw [hname, hval]
    · rw [if_neg hv']
  · rw [if_neg hv]

/-- an OACK whose first option is recognised but carries a value that is not `[+]digits < 2^64`
is rejected (the same loop parses the options of RRQ and WRQ) -/
theorem c10_reject_nonnumeric (name value rest : Bytes) (t : OptionType)
    (hn0 : (0 : UInt8) ∉ name) (hv0 : (0 : UInt8) ∉ value)
    (hname : OptionType.ofName (lowerName name) = some t) (hval : parseUsize value = none) :
    decode ([0, 6] ++ (name ++ 0 :: (value ++ 0 :: rest))) = .err := by
  show decode (0 :: 6 :: (name ++ 0 :: (value ++ 0 :: rest))) = .err
  rw [decode_cons (op := 6) rfl, parseOptions_bad_value (zi := 1) rfl hn0 hv0 hname hval]
  rfl

/-! non-vacuity -/
example : decode [0, 6, 66, 76, 75, 83, 73, 90, 69, 0, 45, 49, 0] = .err := by decide  -- "BLKSIZE" "-1"
example : decode [0, 1, 97, 0, 111, 0, 0xE2, 0x84, 0xAA, 0, 0] = .ok (.rrq [97] [111] []) := by decide  -- unknown option dropped

end Tftp
