import Tftp.Lemmas.Sender
import Tftp.Lemmas.Receiver
/-!
# C08 — Window flow control; retransmit only on timeout or gap, never on duplicate ACK
-/
namespace Tftp

/-- shape of what one transition emits: nothing, the handshake ERROR, or exactly the window of the
state reached — at most `windowsize` blocks, starting at the block after the last accepted ACK -/
theorem c08_outstanding_le_w (c : SCfg) (hb : 0 < c.b) (hw : c.w < 65536) (f : Bytes) (s : SState)
    (h : SInv c f s) (ev : SEv) (dt : Nat) :
    (sStep c s ev dt).2 = [] ∨ (sStep c s ev dt).2 = [illegalOp] ∨
    ((sStep c s ev dt).2 = sendWindow c.rep (sStep c s ev dt).1.bn (sStep c s ev dt).1.win.elems ∧
      (sStep c s ev dt).1.win.elems.length ≤ c.w ∧
      (sStep c s ev dt).1.bn = (sStep c s ev dt).1.base % 65536) := by
  have hinv := (step_good hb hw h ev dt).1
  -- whatever goes out at the loop head or at the start of an outer iteration is the whole window
  have hhead : ∀ t : SState, (sHead c t).2 = [] ∨ (sHead c t).2 = [illegalOp] ∨
      (sHead c t).2 = sendWindow c.rep (sHead c t).1.bn (sHead c t).1.win.elems := by
    intro t; unfold sHead; split
    · exact Or.inr (Or.inr rfl)
    · exact Or.inl rfl
  rw [sStep_eq] at hinv ⊢
  refine Or.imp_right (Or.imp_right fun k => ⟨k, hinv.len_le, hinv.bn_eq⟩) ?_
  cases sDecide s ev dt with
  | quiet t => exact Or.inl rfl
  | refuse t => exact Or.inr (Or.inl rfl)
  | head t => exact hhead t
  | outer t =>
    show (sOuter c t).2 = [] ∨ (sOuter c t).2 = [illegalOp] ∨
      (sOuter c t).2 = sendWindow c.rep (sOuter c t).1.bn (sOuter c t).1.win.elems
    unfold sOuter; split
    · exact hhead _
    · exact Or.inl rfl

/-- **a duplicate or stale acknowledgement is a no-op**: for every window size up to 65535, an ACK whose
number is not that of an outstanding block — in particular a repetition of the last ACK — triggers
neither a transmission nor an abort while the timeout has not elapsed; only the clock moves -/
theorem c08_stale_ack_is_noop (c : SCfg) (hw : c.w < 65536) (f : Bytes) (s : SState) (h : SInv c f s)
    (hrun : s.status = .running) (n dt : Nat)
    (hstale : ¬ (n + 65536 - s.bn) % 65536 < s.win.elems.length) (ht : s.since + dt < c.timeout) :
    sStep c s (.ack n) dt = ({ s with since := s.since + dt }, []) := by
  rw [sStep_stale hw h hrun n dt hstale, sHead_quiet ht]

/-- the previous ACK repeated is such a stale ACK, whatever the window size (this is the statement
that was false at `windowsize = 65535` before the repair) -/
theorem c08_duplicate_ack_is_stale (c : SCfg) (hw : c.w < 65536) (f : Bytes) (s : SState) (h : SInv c f s) :
    ¬ ((s.base - 1) % 65536 + 65536 - s.bn) % 65536 < s.win.elems.length := by
  have := h.len_le
  have := h.bn_eq
  have := h.base_pos
  omega

/-- acknowledgements are cumulative: an ACK for the `(diff+1)`-th outstanding block slides the window
past exactly that block, and transmission resumes with block `n + 1` at its front -/
theorem c08_cumulative (c : SCfg) (hb : 0 < c.b) (hw : c.w < 65536) (f : Bytes) (s : SState) (h : SInv c f s)
    (hrun : s.status = .running) (n dt : Nat)
    (hin : (n + 65536 - s.bn) % 65536 < s.win.elems.length) :
    (sStep c s (.ack n) dt).1.base = s.base + (n + 65536 - s.bn) % 65536 + 1 ∧
    (sStep c s (.ack n) dt).1.bn = (n + 1) % 65536 ∧
    ((sStep c s (.ack n) dt).1.status = .ok ∨
      (sStep c s (.ack n) dt).2 = sendWindow c.rep ((n + 1) % 65536) (sStep c s (.ack n) dt).1.win.elems) := by
  obtain ⟨-, hfin⟩ | ⟨-, t, e, ht⟩ := sStep_ack_in hb hw h hrun n dt rfl hin
  · rw [hfin]; exact ⟨rfl, rfl, Or.inl rfl⟩
  · rw [e]; exact ⟨ht.base, ht.bn, Or.inr (ht.bn ▸ rfl)⟩

/-- a burst is emitted only right after an acknowledgement inside the window, or when the negotiated
timeout has elapsed since the last transmission — never otherwise -/
theorem c08_burst_causes (c : SCfg) (hw : c.w < 65536) (f : Bytes) (s : SState) (h : SInv c f s)
    (hrun : s.status = .running) (ev : SEv) (dt : Nat) (hout : (sStep c s ev dt).2 ≠ []) :
    (∃ n, ev = .ack n ∧ (n + 65536 - s.bn) % 65536 < s.win.elems.length) ∨ s.since + dt ≥ c.timeout := by
  -- outside an in-window acknowledgement whatever is emitted is emitted at the loop head
  have hhead : ∀ t : SState, (sHead c t).2 ≠ [] → t.since ≥ c.timeout := fun t ht =>
    Nat.le_of_not_lt fun hlt => ht (by rw [sHead_quiet hlt])
  have hfail : ∀ ev, ev = SEv.fail ∨ ev = SEv.other → (sStep c s ev dt).2 ≠ [] → s.since + dt ≥ c.timeout := by
    intro ev hev hne
    rw [sStep_fail dt hrun hev] at hne
    split at hne
    · exact absurd rfl hne
    · exact hhead _ hne
  cases ev with
  | ack n =>
    by_cases hin : (n + 65536 - s.bn) % 65536 < s.win.elems.length
    · exact Or.inl ⟨n, rfl, hin⟩
    · rw [sStep_stale hw h hrun n dt hin] at hout
      exact Or.inr (hhead _ hout)
  | error => rw [sStep_error_eq c dt hrun] at hout; exact absurd rfl hout
  | fail => exact Or.inr (hfail _ (Or.inl rfl) hout)
  | other => exact Or.inr (hfail _ (Or.inr rfl) hout)

/-! ## receiver: acknowledge at the latest after `windowsize` in-order blocks, and on the final block -/

/-- pending blocks never reach `windowsize` between two transitions (`RPending` is kept), and the step that receives
the `windowsize`-th in-order block, or the final (short) block, emits the acknowledgement (after flushing: nothing
stays pending) -/
theorem c08_receiver_acks_by_w (c : RCfg) (hw1 : 1 ≤ c.w) (hw : c.w < 65536) (s : RState) (hp : RPending c s)
    (hrun : s.status = .running) (n : Nat) (payload : Bytes) (hseq : n = (s.bn + 1) % 65536) :
    RPending c (rStep c s (.data n payload)).1 ∧
    ((payload.length < c.b ∨ s.win.elems.length + 1 = c.w) →
      (rStep c s (.data n payload)).2 = ackOut c.rep n (rStep c s (.data n payload)).1.win.file ∧
      (rStep c s (.data n payload)).1.win.elems = []) := by
  rw [rStep_inseq hw hp hrun n payload hseq]
  obtain ⟨hlt, hsz, hcw⟩ := hp
  have hfl : RPending c (s.accept n payload).flushed := ⟨hw1, hsz, (foldl_write_canWrite _ _).trans hcw⟩
  split
  · exact ⟨hfl, fun _ => ⟨rfl, rfl⟩⟩
  · rename_i hlong
    split
    · exact ⟨hfl, fun _ => ⟨rfl, rfl⟩⟩
    · rename_i hroom
      exact ⟨⟨by simp [RState.accept]; omega, hsz, hcw⟩, fun hor => (hor.elim hlong hroom).elim⟩

end Tftp
