import Tftp.Lemmas.Server
/-!
# C03 — Directory confinement

Semantic ground: POSIX lexical resolution without symbolic links. For a path whose components
contain no `..`, resolution visits exactly `components p` in order, so "inside `dir`" is
"`components dir` is a prefix of `components p`". Modelled, not verified: `PathBuf::join`,
`Path::ancestors`/`==`, kernel path resolution, absence of symlinks in the served tree.
-/
namespace Tftp

/-- the converted file name never starts with `/`: `join` appends, it can never replace the directory -/
theorem c03_convert_relative (name : Bytes) : (convertFilePath name).head? ≠ some slash := by
  unfold convertFilePath
  rw [List.head?_map]
  have h := List.head?_dropWhile_not (fun c => c == slash || c == backslash) name
  cases hd : (name.dropWhile (fun c => c == slash || c == backslash)).head? with
  | none => exact nofun
  | some x =>
    rw [hd] at h
    obtain ⟨h1, h2⟩ := Bool.or_eq_false_iff.mp h
    simp only [Option.map_some, h2, Bool.false_eq_true, ↓reduceIte, ne_eq, Option.some.injEq]
    exact beq_eq_false_iff_ne.mp h1

/-- a validated path has no `..` component: a component is a contiguous piece of the string, and the
string does not contain `..` … -/
theorem c03_no_dotdot_component (p : Bytes) (h : validateFilePath p = true) : [dot, dot] ∉ components p := by
  intro hm
  obtain ⟨a, b, rfl⟩ := infix_of_mem_splitOnSlash (List.mem_filter.mp hm).1
  rw [validateFilePath, Bool.not_eq_true', List.append_assoc] at h
  cases hasDotDot_append_left a _ h

/-- … and it resolves inside the directory: every file name, any bytes at all -/
theorem c03_validated_is_inside (dir name : Bytes)
    (_h : validateFilePath (joinPath dir (convertFilePath name)) = true) :
    components dir <+: components (joinPath dir (convertFilePath name)) := by
  rw [components_joinPath]
  exact List.prefix_append _ _

/-- a request whose path fails validation is answered with exactly one ERROR 2 from the listening
socket and starts nothing: RRQ and WRQ, every flag setting -/
theorem c03_refusal_has_no_effect (cfg : SrvCfg) (fs : Fs) (name : Bytes) (os : List TransferOption) :
    (validateFilePath (joinPath cfg.sendDir (convertFilePath name)) = false →
      handleRrq cfg fs name os = errorReply .accessViolation) ∧
    (validateFilePath (joinPath cfg.recvDir (convertFilePath name)) = false →
      handleWrq cfg fs name os = errorReply .accessViolation) := by
  constructor
  · intro h
    simp only [handleRrq, checkFileExists_of_invalid h]
  · intro h
    simp only [handleWrq, checkFileExists_of_invalid h]

/-- every worker the listener starts works on the validated path inside the right directory:
`send` workers under the send directory, `receive` workers under the receive directory -/
theorem c03_effects_confined (cfg : SrvCfg) (fs : Fs) (largest : Nat) (dgram : Bytes) (w : WorkerSpec)
    (h : (handleDatagram cfg fs largest dgram).worker = some w) :
    ∃ name, validateFilePath w.path = true ∧
      ((w.kind = .send ∧ w.path = joinPath cfg.sendDir (convertFilePath name)) ∨
       (w.kind = .receive ∧ w.path = joinPath cfg.recvDir (convertFilePath name))) := by
  rcases handleDatagram_cases cfg fs largest dgram with
    ⟨_, e⟩ | e | ⟨name, _, _, _, hv, -, e⟩ | ⟨name, _, _, _, hv, -, e⟩ <;> rw [e] at h
  · cases h
  · cases h
  · cases h; exact ⟨name, hv, .inl ⟨rfl, rfl⟩⟩
  · cases h; exact ⟨name, hv, .inr ⟨rfl, rfl⟩⟩

/-! non-vacuity -/
example : validateFilePath (joinPath [0x2F, 0x64] (convertFilePath [0x2F, 0x5C, 0x61, 0x5C, 0x62])) = true ∧
    components (joinPath [0x2F, 0x64] (convertFilePath [0x2F, 0x5C, 0x61, 0x5C, 0x62])) = [[0x64], [0x61], [0x62]] := by
  decide
example : validateFilePath (joinPath [0x2F, 0x64] (convertFilePath [0x2E, 0x2E, 0x2F, 0x78])) = false := by decide

end Tftp
