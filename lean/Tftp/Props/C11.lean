import Tftp.Lemmas.CodecRoundTrip
/-!
# C11 — Codec round-trip and RFC wire layout for all six packet kinds

Property theorems only (helper lemmas live in `Tftp/Lemmas`).  `WF p` is exactly what the Rust type
`Packet` can hold (`String` = valid UTF-8, `usize < 2^64`, `u16 < 65536`) minus strings containing
NUL, which the property statement excludes ("any filename, mode and message without NUL").
-/
namespace Tftp

/-- decoding the encoding returns the identical packet — every well-formed packet of all six kinds -/
theorem c11_decode_encode (p : Packet) (h : WF p) : decode (encode p) = .ok p :=
  decode_encode p h

/-- hence the encoding is injective on well-formed packets -/
theorem c11_encode_injective (p q : Packet) (hp : WF p) (hq : WF q) (h : encode p = encode q) : p = q :=
  Outcome.ok.inj ((decode_encode p hp).symm.trans (h ▸ decode_encode q hq))

/-! RFC 1350 / 2347 byte layout, one equation per packet kind -/

theorem c11_layout_rrq (f m : Bytes) (os : List TransferOption) :
    encode (.rrq f m os) = [0, 1] ++ f ++ [0] ++ m ++ [0] ++ encodeOptions os := rfl

theorem c11_layout_wrq (f m : Bytes) (os : List TransferOption) :
    encode (.wrq f m os) = [0, 2] ++ f ++ [0] ++ m ++ [0] ++ encodeOptions os := rfl

theorem c11_layout_data (n : Nat) (d : Bytes) :
    encode (.data n d) = [0, 3, UInt8.ofNat (n / 256), UInt8.ofNat (n % 256)] ++ d := rfl

theorem c11_layout_ack (n : Nat) :
    encode (.ack n) = [0, 4, UInt8.ofNat (n / 256), UInt8.ofNat (n % 256)] := rfl

theorem c11_layout_error (c : ErrorCode) (m : Bytes) :
    encode (.error c m) = [0, 5, 0, UInt8.ofNat c.toU16] ++ m ++ [0] := by
  rw [encode, u16be_of_lt (Nat.lt_of_le_of_lt c.toU16_le (by decide))]
  rfl

theorem c11_layout_oack (os : List TransferOption) :
    encode (.oack os) = [0, 6] ++ encodeOptions os := rfl

/-- one option = lower-case name, NUL, decimal ASCII value, NUL -/
theorem c11_layout_option (t : OptionType) (v : Nat) :
    TransferOption.encode { option := t, value := v } = t.name ++ [0] ++ toDec v ++ [0] := rfl

theorem c11_option_names :
    OptionType.blksize.name = [98, 108, 107, 115, 105, 122, 101] ∧
    OptionType.tsize.name = [116, 115, 105, 122, 101] ∧
    OptionType.timeout.name = [116, 105, 109, 101, 111, 117, 116] ∧
    OptionType.windowsize.name = [119, 105, 110, 100, 111, 119, 115, 105, 122, 101] := by
  decide

/-- decimal ASCII: digits only, no leading garbage, and it parses back to the value -/
theorem c11_toDec_parse (n : Nat) (h : n < 2 ^ 64) :
    parseUsize (toDec n) = some n ∧ (∀ d ∈ toDec n, 48 ≤ d.toNat ∧ d.toNat ≤ 57) ∧ toDec n ≠ [] :=
  ⟨parseUsize_toDec n (by simpa [Gen.usizeBound] using h), toDec_digits n, toDec_ne_nil n⟩

/-- opcode conversions are mutually inverse over all of `u16` (and beyond): exactly 1..6 accepted -/
theorem c11_opcode_inverse (n : Nat) (o : Opcode) : Opcode.ofU16 n = some o ↔ o.toU16 = n :=
  ⟨Opcode.toU16_of_ofU16, fun h => h ▸ Opcode.ofU16_toU16 o⟩

theorem c11_opcode_range (n : Nat) : (Opcode.ofU16 n).isSome ↔ 1 ≤ n ∧ n ≤ 6 := by
  constructor
  · intro h
    obtain ⟨o, ho⟩ := Option.isSome_iff_exists.mp h
    rw [← Opcode.toU16_of_ofU16 ho]
    exact o.toU16_range
  · intro h
    exact (by decide : ∀ m < 7, 1 ≤ m → (Opcode.ofU16 m).isSome) n (by omega) h.1

theorem c11_errorcode_inverse (n : Nat) (c : ErrorCode) : ErrorCode.ofU16 n = some c ↔ c.toU16 = n :=
  ⟨ErrorCode.toU16_of_ofU16, fun h => h ▸ ErrorCode.ofU16_toU16 c⟩

theorem c11_errorcode_range (n : Nat) : (ErrorCode.ofU16 n).isSome ↔ n ≤ 7 := by
  constructor
  · intro h
    obtain ⟨c, hc⟩ := Option.isSome_iff_exists.mp h
    rw [← ErrorCode.toU16_of_ofU16 hc]
    exact c.toU16_le
  · intro h
    exact (by decide : ∀ m < 8, (ErrorCode.ofU16 m).isSome) n (by omega)

/-- big-endian 16-bit numbers round-trip -/
theorem c11_u16_roundtrip (n : Nat) (h : n < 65536) (rest : Bytes) : toU16 (u16be n ++ rest) = some n :=
  toU16_u16be n h rest

/-! non-vacuity: concrete non-trivial packets satisfy `WF` -/
example : WF (.rrq [0x61, 0xC3, 0xA9] [111, 99, 116, 101, 116]
    [{ option := .blksize, value := 1428 }, { option := .tsize, value := 18446744073709551615 }]) := by
  unfold WF WFStr WFOpt
  decide
example : WF (.data 65535 [1, 2, 3]) := by simp [WF]
example : WF (.error .fileExists []) := ⟨by decide, by decide⟩

end Tftp
