import Tftp.Lemmas.Server
import Tftp.Model.Client
import Tftp.Lemmas.NetFree
import Tftp.Props.C04
/-!
# C14 — Bundled client and server interoperate byte-exactly for every option choice

The transfer itself is the closed loop of `Model/Net.lean` (the client's worker *is* the same
`Worker::send` / `Worker::receive` code as the server's): see C04 for what is proved about it and what is
enumerated against the real workers. Here: the client-side glue.
Partial by nature: kernel socket buffers and real timers (a burst larger than the socket buffer is
recovered by the re-acknowledgement of C04, at the price of time-outs).
-/
namespace Tftp

/-- the client always sends the four options, in the order blksize, windowsize, timeout, tsize; a read
request names the path as given, a write request names the basename -/
theorem c14_client_request (c : ClientCfg) (size : Nat) :
    (c.upload = false → clientRequest c size = some (.rrq c.filePath octet
      [{ option := .blksize, value := c.blocksize }, { option := .windowsize, value := c.windowsize },
       { option := .timeout, value := c.timeoutS }, { option := .tsize, value := 0 }])) ∧
    (c.upload = true → ∀ n, fileName c.filePath = some n → clientRequest c size = some (.wrq n octet
      [{ option := .blksize, value := c.blocksize }, { option := .windowsize, value := c.windowsize },
       { option := .timeout, value := c.timeoutS }, { option := .tsize, value := size }])) := by
  unfold clientRequest
  constructor
  · intro h; simp [h]
  · intro h n hn; simp [h, hn]

/-- options other than `blksize` and `windowsize` leave what `verify_oack` adopts alone -/
theorem verifyOack_frame (c : ClientCfg) (os : List TransferOption)
    (h : ∀ o ∈ os, o.option ≠ .blksize ∧ o.option ≠ .windowsize) :
    (verifyOack c os).blocksize = c.blocksize ∧ (verifyOack c os).windowsize = c.windowsize := by
  induction os with
  | nil => exact ⟨rfl, rfl⟩
  | cons o os ih =>
    have ho := h o (List.mem_cons_self ..)
    have hos := ih fun x hx => h x (List.mem_cons_of_mem _ hx)
    unfold verifyOack
    cases hopt : o.option with
    | blksize => exact absurd hopt ho.1
    | windowsize => exact absurd hopt ho.2
    | tsize | timeout => exact hos

/-- the server acknowledges the client's options unchanged when they are valid (C09), and the client adopts
exactly what the OACK says: both ends run the transfer with the same block length and window -/
theorem c14_client_adopts_oack (c : ClientCfg) (b w : Nat) (hw : w < 65536) (rest : List TransferOption)
    (hrest : ∀ o ∈ rest, o.option ≠ .blksize ∧ o.option ≠ .windowsize) :
    (verifyOack c ({ option := .blksize, value := b } :: { option := .windowsize, value := w } :: rest)).blocksize = b ∧
    (verifyOack c ({ option := .blksize, value := b } :: { option := .windowsize, value := w } :: rest)).windowsize = w := by
  obtain ⟨h1, h2⟩ := verifyOack_frame { c with blocksize := b, windowsize := w % 65536 } rest hrest
  exact ⟨h1, h2.trans (Nat.mod_eq_of_lt hw)⟩

/-- a download is stored as `<receive-directory>/<basename of the requested path>` -/
theorem c14_download_target (c : ClientCfg) (n : Bytes) (h : fileName c.filePath = some n) :
    downloadTarget c = some (joinPath c.recvDir n) := by
  simp [downloadTarget, h]

/-- when the server refuses the request with an ERROR (or answers with anything that is not an
OACK/ACK) the client starts no worker and therefore creates no file -/
theorem c14_refusal_creates_nothing (c : ClientCfg) (code : ErrorCode) (msg : Bytes) :
    clientOnReply c (.error code msg) = .fail := rfl

/-- an upload acknowledged with a plain ACK falls back to the RFC 1350 defaults on the client side too -/
theorem c14_upload_plain_ack_defaults (c : ClientCfg) (h : c.upload = true) (n : Nat) :
    clientOnReply c (.ack n) = .transfer { c with blocksize := 512, windowsize := 1, timeoutS := 5 } false := by
  simp [clientOnReply, h, Gen.clientDefaultBlocksize, Gen.clientDefaultWindowsize, Gen.clientDefaultTimeoutS]

/-- the sender's and … -/
def loopSender (b w timeout : Nat) : SCfg := { b := b, w := w, timeout := timeout, rep := 1 }
/-- … the receiver's configuration, as the two ends derive them from one negotiated option set -/
def loopReceiver (b w : Nat) (clean : Bool) : RCfg := { b := b, w := w, rep := 1, cleanOnError := clean }

/-- **fault-free transfer**: for every file (any length: empty, exact multiples, more than 65535 blocks),
every block size ≥ 1 (so all of 8..65464) and every window size 1..65535, the sending worker and the
receiving worker — the same code on the client and on the server side — connected through loss-free FIFO
queues end both successfully with the receiver's file byte-identical to the sender's, and no time-out is
ever needed (`Lemmas/NetFree.lean`: an invariant over the scheduler steps, not a bounded search). -/
theorem c14_fault_free_transfer (f : Bytes) (b w timeout : Nat) (clean : Bool) (hb : 0 < b) (hw1 : 1 ≤ w)
    (hw : w < 65536) :
    ∃ fuel,
      (netRun (loopSender b w timeout) (loopReceiver b w clean) Faults.none fuel
        (netInit (loopSender b w timeout) (loopReceiver b w clean) Faults.none f)).s.status = .ok ∧
      (netRun (loopSender b w timeout) (loopReceiver b w clean) Faults.none fuel
        (netInit (loopSender b w timeout) (loopReceiver b w clean) Faults.none f)).r.status = .ok ∧
      (netRun (loopSender b w timeout) (loopReceiver b w clean) Faults.none fuel
        (netInit (loopSender b w timeout) (loopReceiver b w clean) Faults.none f)).r.win.file.content = f := by
  have lc : LoopCfg (loopSender b w timeout) (loopReceiver b w clean) :=
    ⟨hb, hw1, hw, rfl, rfl, rfl, rfl⟩
  obtain ⟨fuel, hd⟩ := fault_free_transfer _ _ lc f
  exact ⟨fuel, hd.sok, hd.rok, hd.file⟩

/-- the four options of the client's request, as `clientRequest` builds them -/
def clientOptions (c : ClientCfg) (ts : Nat) : List TransferOption :=
  [{ option := .blksize, value := c.blocksize }, { option := .windowsize, value := c.windowsize },
   { option := .timeout, value := c.timeoutS }, { option := .tsize, value := ts }]

/-- **negotiation**: for every option choice inside the documented ranges the server's `parse_options` accepts
the client's request options, runs the worker with exactly the client's block size, window size and time-out,
and the OACK it builds makes the client (`verify_oack`) keep exactly these values - both ends of the data phase
use the same parameters -/
theorem c14_negotiation (c : ClientCfg) (rt : ReqType) (ts : Nat)
    (hb : Gen.blksizeMin ≤ c.blocksize ∧ c.blocksize ≤ Gen.blksizeMax)
    (hw : 1 ≤ c.windowsize ∧ c.windowsize ≤ 65535) (ht : 1 ≤ c.timeoutS ∧ c.timeoutS ≤ Gen.timeoutMax) :
    ∃ wo acks, parseWorkerOptions (clientOptions c ts) rt = some (wo, acks) ∧
      wo.blockSize = c.blocksize ∧ wo.windowSize = c.windowsize ∧ wo.timeoutS = c.timeoutS ∧
      (verifyOack c acks).blocksize = c.blocksize ∧ (verifyOack c acks).windowsize = c.windowsize := by
  have hok : (clientOptions c ts).any rejected = false := by
    simp only [clientOptions, List.any_cons, List.any_nil, (rejected_blksize _).mpr hb,
      (rejected_windowsize _).mpr hw, (rejected_timeout _).mpr ht]
    rfl
  -- the worker's options and the OACK are now the closed form of `parse_options` on four concrete options
  refine ⟨_, _, parseWorkerOptions_eq_some.mpr ⟨hok, rfl, rfl⟩, rfl, rfl, rfl, ?_⟩
  exact c14_client_adopts_oack c c.blocksize c.windowsize (by omega) _ (by simp [ackFor])

/-- **client and server, end to end** (download): for every option choice of the client inside the documented
ranges, every file and every schedule of lost and duplicated datagrams, the parameters the server's worker gets
from `parse_options` on the client's request and the parameters the client keeps after `verify_oack` on the
server's OACK drive a data phase (the closed loop of the two worker models) that runs to an end, and that end is
success with a byte-identical file on the receiving side, or both-sided / sender-sided give-up after
`MAX_RETRIES` consecutive failed attempts; with fewer than `MAX_RETRIES` losses it is success -/
theorem c14_end_to_end (c : ClientCfg) (f : Bytes) (clean : Bool)
    (hb : Gen.blksizeMin ≤ c.blocksize ∧ c.blocksize ≤ Gen.blksizeMax)
    (hw : 1 ≤ c.windowsize ∧ c.windowsize ≤ 65535) (ht : 1 ≤ c.timeoutS ∧ c.timeoutS ≤ Gen.timeoutMax) :
    ∃ wo acks, parseWorkerOptions (clientOptions c 0) (.read f.length) = some (wo, acks) ∧
      ∀ fl : Faults,
        (∃ fuel, TotalDone f
          (netRun { b := wo.blockSize, w := wo.windowSize, timeout := wo.timeoutS * 1000, rep := 1 }
            { b := (verifyOack c acks).blocksize, w := (verifyOack c acks).windowsize, rep := 1, cleanOnError := clean }
            fl fuel
            (netInit { b := wo.blockSize, w := wo.windowSize, timeout := wo.timeoutS * 1000, rep := 1 }
              { b := (verifyOack c acks).blocksize, w := (verifyOack c acks).windowsize, rep := 1, cleanOnError := clean }
              fl f))) ∧
        (fl.dropData.length + fl.dropAck.length < Gen.maxRetries →
          ∃ fuel,
            (netRun { b := wo.blockSize, w := wo.windowSize, timeout := wo.timeoutS * 1000, rep := 1 }
              { b := (verifyOack c acks).blocksize, w := (verifyOack c acks).windowsize, rep := 1, cleanOnError := clean }
              fl fuel
              (netInit { b := wo.blockSize, w := wo.windowSize, timeout := wo.timeoutS * 1000, rep := 1 }
                { b := (verifyOack c acks).blocksize, w := (verifyOack c acks).windowsize, rep := 1, cleanOnError := clean }
                fl f)).r.win.file.content = f) := by
  obtain ⟨wo, acks, hp, h1, h2, h3, h4, h5⟩ := c14_negotiation c (.read f.length) 0 hb hw ht
  refine ⟨wo, acks, hp, ?_⟩
  intro fl
  have hbmin : 0 < Gen.blksizeMin := by decide
  have lc : LoopCfgT { b := wo.blockSize, w := wo.windowSize, timeout := wo.timeoutS * 1000, rep := 1 }
      { b := (verifyOack c acks).blocksize, w := (verifyOack c acks).windowsize, rep := 1, cleanOnError := clean } :=
    ⟨⟨by show 0 < wo.blockSize; omega, by show 1 ≤ wo.windowSize; omega, by show wo.windowSize < 65536; omega, rfl,
      by show (verifyOack c acks).blocksize = wo.blockSize; omega,
      by show (verifyOack c acks).windowsize = wo.windowSize; omega, rfl⟩,
      by show 0 < wo.timeoutS * 1000; omega⟩
  -- the data phase is C04's closed loop
  refine ⟨c04_closed_loop_total _ _ lc.hb lc.hw1 lc.hw lc.hrep lc.ht lc.rb lc.rw lc.rrep fl f, ?_⟩
  intro hbud
  obtain ⟨fuel, _, hfile, _⟩ := c04_loss_tolerance _ _ lc.hb lc.hw1 lc.hw lc.hrep lc.ht lc.rb lc.rw lc.rrep fl hbud f
  exact ⟨fuel, hfile⟩

/-! non-vacuity -/
example : fileName [115, 117, 98, 47, 102, 46, 98] = some [102, 46, 98] := by decide   -- "sub/f.b" -> "f.b"

end Tftp
