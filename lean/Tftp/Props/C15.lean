import Tftp.Props.C01
import Tftp.Lemmas.NetFree
/-!
# C15 — Block-number wrap-around

The theorems of C01, C07 and C08 are proved for files of *any* length: `k` ranges over all of
`1..N` with no bound on `N`, wire numbers are `k mod 65536`. What is specific to the wrap is stated here.
-/
namespace Tftp

/-- an acknowledgement number is attributed to at most one outstanding block: since the window holds
at most `windowsize ≤ 65535 < 65536` blocks, two distinct outstanding blocks never share a wire number -/
theorem c15_ack_unique_in_window (c : SCfg) (hw : c.w < 65536) (f : Bytes) (s : SState) (h : SInv c f s)
    (i j : Nat) (hi : i < s.win.elems.length) (hj : j < s.win.elems.length)
    (heq : (s.bn + i) % 65536 = (s.bn + j) % 65536) : i = j := by
  have := h.len_le
  omega

/-- an accepted ACK `n` moves the window to exactly the block after the one it names — the absolute
index advances by `diff + 1 ≤ windowsize`, never by 65536 more or less — and the wire number of the
new front is that absolute index mod 65536 (across the wrap: …, 65535, 0, 1, …) -/
theorem c15_slide_exact (c : SCfg) (hb : 0 < c.b) (hw : c.w < 65536) (f : Bytes) (s : SState) (h : SInv c f s)
    (hrun : s.status = .running) (n dt : Nat) (hin : (n + 65536 - s.bn) % 65536 < s.win.elems.length) :
    (sStep c s (.ack n) dt).1.base = s.base + (n + 65536 - s.bn) % 65536 + 1 ∧
    (s.base + (n + 65536 - s.bn) % 65536) % 65536 = n % 65536 ∧
    (sStep c s (.ack n) dt).1.bn = (sStep c s (.ack n) dt).1.base % 65536 := by
  refine ⟨?_, by rw [h.bn_eq, wrap_acked], (step_good hb hw h (.ack n) dt).1.bn_eq⟩
  obtain ⟨-, e⟩ | ⟨-, t, e, ht⟩ := sStep_ack_in hb hw h hrun n dt rfl hin <;> rw [e]
  · rfl
  · exact ht.base

/-- the sender's data theorem with the wrap made explicit: block `k` of a file with more than 65535
blocks is emitted as number `k mod 65536` carrying exactly its own bytes -/
theorem c15_sender_any_length (c : SCfg) (hb : 0 < c.b) (hw : c.w < 65536) (f : Bytes) (chk : Bool)
    (evs : List (SEv × Nat)) (_hlong : 65535 < nblocks c.b f) :
    ∀ g ∈ (sRun c f chk evs).1, ∀ p ∈ g, GoodPkt c f p :=
  c01_data_is_slice c hb hw f chk evs

/-- the receiver's expected number after 65535 is 0 -/
theorem c15_receiver_expected_wraps (c : RCfg) (s : RState) (hrun : s.status = .running) (hbn : s.bn = 65535)
    (payload : Bytes) (hfull : ¬ payload.length < c.b) :
    (rStep c s (.data 0 payload)).1.bn = 0 ∨ (rStep c s (.data 0 payload)).1.status = .failed := by
  obtain h | ⟨w, h⟩ := rStep_inseq_frame c hrun 0 payload (by rw [hbn])
  · exact Or.inr h
  · exact Or.inl (by rw [h, if_neg hfull]; rfl)

/-- **a transfer of more than 65535 blocks completes byte-identically** in the fault-free closed loop, for
every window size (so also for windows that straddle 65535 → 0): the general completion theorem has no
bound on the number of blocks; here it is instantiated at `N > 65535` -/
theorem c15_long_transfer_completes (f : Bytes) (b w timeout : Nat) (hb : 0 < b) (hw1 : 1 ≤ w) (hw : w < 65536)
    (_hlong : 65535 < nblocks b f) :
    ∃ fuel,
      (netRun { b := b, w := w, timeout := timeout, rep := 1 } { b := b, w := w, rep := 1, cleanOnError := true }
        Faults.none fuel
        (netInit { b := b, w := w, timeout := timeout, rep := 1 } { b := b, w := w, rep := 1, cleanOnError := true }
          Faults.none f)).r.win.file.content = f ∧
      (netRun { b := b, w := w, timeout := timeout, rep := 1 } { b := b, w := w, rep := 1, cleanOnError := true }
        Faults.none fuel
        (netInit { b := b, w := w, timeout := timeout, rep := 1 } { b := b, w := w, rep := 1, cleanOnError := true }
          Faults.none f)).s.status = .ok := by
  have lc : LoopCfg { b := b, w := w, timeout := timeout, rep := 1 } { b := b, w := w, rep := 1, cleanOnError := true } :=
    ⟨hb, hw1, hw, rfl, rfl, rfl, rfl⟩
  obtain ⟨fuel, hd⟩ := fault_free_transfer _ _ lc f
  exact ⟨fuel, hd.file, hd.sok⟩

/-- **a transfer of more than 65535 blocks survives loss and duplication at and around the wrap**: the
loss-tolerance theorem has no bound on the number of blocks and none on where the losses fall, so also on the
datagrams numbered 65535, 0, 1; here it is instantiated at `N > 65535` -/
theorem c15_long_transfer_loss_tolerance (f : Bytes) (b w timeout : Nat) (hb : 0 < b) (hw1 : 1 ≤ w) (hw : w < 65536)
    (ht : 0 < timeout) (_hlong : 65535 < nblocks b f) (fl : Faults)
    (hbudget : fl.dropData.length + fl.dropAck.length < Gen.maxRetries) :
    ∃ fuel,
      (netRun { b := b, w := w, timeout := timeout, rep := 1 } { b := b, w := w, rep := 1, cleanOnError := true }
        fl fuel
        (netInit { b := b, w := w, timeout := timeout, rep := 1 } { b := b, w := w, rep := 1, cleanOnError := true }
          fl f)).r.status = .ok ∧
      (netRun { b := b, w := w, timeout := timeout, rep := 1 } { b := b, w := w, rep := 1, cleanOnError := true }
        fl fuel
        (netInit { b := b, w := w, timeout := timeout, rep := 1 } { b := b, w := w, rep := 1, cleanOnError := true }
          fl f)).r.win.file.content = f := by
  have lc : LoopCfgT { b := b, w := w, timeout := timeout, rep := 1 } { b := b, w := w, rep := 1, cleanOnError := true } :=
    ⟨⟨hb, hw1, hw, rfl, rfl, rfl, rfl⟩, ht⟩
  obtain ⟨fuel, h1, h2, _⟩ := loss_tolerance _ _ lc fl hbudget f
  exact ⟨fuel, h1, h2⟩

/-! non-vacuity: a window straddling the wrap (file of 65537 one-byte blocks would be large; the
arithmetic fact is shown on the numbers) -/
example : (65535 + 1) % 65536 = 0 ∧ (65534 + 3) % 65536 = 1 := by decide

end Tftp
