import Tftp.Props.C09
import Tftp.Props.C10
/-!
# C05 — Listener availability: no datagram sequence stops the server from serving

The listener's state that a datagram can influence is `largest` (`largest_block_size`, the size of the
receive buffer in single-port mode) — and the `clients` map, which only routes. What can take the
listener down in the Rust code is (1) a panic while decoding, (2) `vec![0; largest + 4]` overflowing or
failing to allocate, (3) a worker parameter the worker cannot survive. The theorems exclude these for
every datagram and every history of datagrams.

Partial by nature (runtime behaviour no model here exhibits): heap exhaustion, thread-creation
failure under flood, `println!` to a closed stdout.
-/
namespace Tftp

/-- new value of `largest_block_size` after the reaction to one datagram -/
def nextLargest (cfg : SrvCfg) (largest : Nat) (r : Reaction) : Nat :=
  match r.worker with
  | some w => if cfg.singlePort then max largest w.opts.blockSize else largest
  | none => largest

/-- the receive buffer the listener allocates stays between 512+4 and 65464+4 bytes -/
def ListenerInv (largest : Nat) : Prop := 512 ≤ largest ∧ largest ≤ 65464

/-- every worker the listener starts gets parameters it can survive: `timeout + 1 s` cannot overflow,
the block buffers are at most 65468 bytes, the window fits `u16` -/
theorem c05_worker_params (cfg : SrvCfg) (fs : Fs) (largest : Nat) (dgram : Bytes) (w : WorkerSpec)
    (h : (handleDatagram cfg fs largest dgram).worker = some w) :
    8 ≤ w.opts.blockSize ∧ w.opts.blockSize ≤ 65464 ∧ 1 ≤ w.opts.windowSize ∧ w.opts.windowSize ≤ 65535 ∧
    1 ≤ w.opts.timeoutS ∧ w.opts.timeoutS ≤ 255 := by
  rcases handleDatagram_cases cfg fs largest dgram with
    ⟨_, e⟩ | e | ⟨_, os, wo, acked, -, hp, e⟩ | ⟨_, os, wo, acked, -, hp, e⟩ <;> rw [e] at h
  · cases h
  · cases h
  · cases h; exact c09_worker_params_sane os _ wo acked hp
  · cases h; exact c09_worker_params_sane os _ wo acked hp

/-- **one datagram**: whatever bytes arrive, decoding does not panic, the reaction is defined, and the
listener's buffer size stays within bounds (so `vec![0; largest + 4]` neither overflows nor asks for
more than 65468 bytes) -/
theorem c05_listen_step (cfg : SrvCfg) (fs : Fs) (largest : Nat) (dgram : Bytes) (h : ListenerInv largest) :
    decode (dgram.take ((if cfg.singlePort then largest else Gen.maxRequestPacketSize) + 4)) ≠ .panic ∧
    ListenerInv (nextLargest cfg largest (handleDatagram cfg fs largest dgram)) := by
  refine ⟨c10_total _, ?_⟩
  unfold nextLargest
  cases hw : (handleDatagram cfg fs largest dgram).worker with
  | none => exact h
  | some w =>
    have hs := c05_worker_params cfg fs largest dgram w hw
    unfold ListenerInv at h ⊢
    dsimp only
    split
    · omega
    · exact h

/-- **any history**: the invariant holds after every sequence of datagrams, for every evolution of
the file system in between -/
theorem c05_any_history (cfg : SrvCfg) (dgrams : List (Fs × Bytes)) :
    ListenerInv (dgrams.foldl (fun l d => nextLargest cfg l (handleDatagram cfg d.1 l d.2)) Gen.defaultBlockSize) := by
  suffices ∀ l, ListenerInv l →
      ListenerInv (dgrams.foldl (fun l d => nextLargest cfg l (handleDatagram cfg d.1 l d.2)) l) from
    this _ (by unfold ListenerInv; decide)
  induction dgrams with
  | nil => exact fun l h => h
  | cons d ds ih => exact fun l h => ih _ (c05_listen_step cfg d.1 l d.2 h).2

/-- **a probe is served independently of what came before**: for a datagram that fits the smallest
receive buffer, the reaction is a function of the configuration, the file system and the datagram
alone — not of `largest` nor of anything accumulated from earlier datagrams -/
theorem c05_probe_independent (cfg : SrvCfg) (fs : Fs) (l1 l2 : Nat) (dgram : Bytes)
    (h1 : ListenerInv l1) (h2 : ListenerInv l2) (hlen : dgram.length ≤ Gen.maxRequestPacketSize + 4) :
    handleDatagram cfg fs l1 dgram = handleDatagram cfg fs l2 dgram := by
  have ht : ∀ l, ListenerInv l →
      dgram.take ((if cfg.singlePort then l else Gen.maxRequestPacketSize) + 4) = dgram := by
    intro l hl
    apply List.take_of_length_le
    unfold ListenerInv at hl
    have : Gen.maxRequestPacketSize = 512 := by decide
    split <;> omega
  unfold handleDatagram
  simp only [ht l1 h1, ht l2 h2]

/-! non-vacuity -/
example : ListenerInv Gen.defaultBlockSize := by unfold ListenerInv; decide

end Tftp
