import Tftp.Model.Server
/-!
# C12 — Concurrent transfers are isolated; datagrams are demultiplexed by endpoint

The server as a whole = the listener + one worker state per client endpoint. A datagram from endpoint
`ep` is handed to the transfer registered for `ep` (single-port mode: the `clients` map; multi-port mode:
the kernel's source filter of the connected socket — a modelled assumption) and to nobody else. The
theorems below hold for *any* per-transfer step function (so in particular for the sender and receiver
models of C01/C02): they say there is no shared logical state through which transfers could interfere.

Partial by nature: real thread scheduling, `mpsc`, and the thread-safety of the shared `UdpSocket` are
runtime behaviour; two uploads to the same target path are excluded (see C13).
-/
namespace Tftp

/-- transfers keyed by client endpoint -/
abbrev Transfers (σ : Type) := Nat → Option σ

def upd {σ : Type} (g : Transfers σ) (ep : Nat) (v : Option σ) : Transfers σ :=
  fun e => if e = ep then v else g e

/-- a datagram `ev` from endpoint `ep`: stepped by the transfer `ep` owns; `none` output = the endpoint owns
no transfer (the listener answers with ERROR 4) -/
def gstep {σ ε ο : Type} (step : σ → ε → σ × ο) (g : Transfers σ) (ep : Nat) (ev : ε) : Transfers σ × Option ο :=
  match g ep with
  | some s => (upd g ep (some (step s ev).1), some (step s ev).2)
  | none => (g, none)

def grun {σ ε ο : Type} (step : σ → ε → σ × ο) : Transfers σ → List (Nat × ε) → Transfers σ × List (Nat × Option ο)
  | g, [] => (g, [])
  | g, (ep, ev) :: rest =>
    let r := gstep step g ep ev
    let rr := grun step r.1 rest
    (rr.1, (ep, r.2) :: rr.2)

/-- what transfer `ep` does on its own, fed only its own datagrams -/
def solo {σ ε ο : Type} (step : σ → ε → σ × ο) : Option σ → List ε → Option σ × List (Option ο)
  | st, [] => (st, [])
  | none, _ :: rest => let rr := solo step none rest; (rr.1, none :: rr.2)
  | some s, ev :: rest => let rr := solo step (some (step s ev).1) rest; (rr.1, some (step s ev).2 :: rr.2)

/-- **routing**: the reaction to a datagram from `ep` is determined by the transfer registered for `ep` alone -/
theorem c12_routing {σ ε ο : Type} (step : σ → ε → σ × ο) (g g' : Transfers σ) (ep : Nat) (ev : ε)
    (h : g ep = g' ep) : (gstep step g ep ev).2 = (gstep step g' ep ev).2 ∧
      (gstep step g ep ev).1 ep = (gstep step g' ep ev).1 ep := by
  unfold gstep
  rw [← h]
  cases g ep <;> simp [upd, h]

/-- **frame**: a datagram from another endpoint leaves a transfer's state untouched -/
theorem c12_frame {σ ε ο : Type} (step : σ → ε → σ × ο) (g : Transfers σ) (ep ep' : Nat) (ev : ε)
    (hne : ep' ≠ ep) : (gstep step g ep ev).1 ep' = g ep' := by
  unfold gstep
  cases g ep <;> simp [upd, hne]

/-- datagrams from an endpoint that owns no transfer change nothing at all -/
theorem c12_foreign_changes_nothing {σ ε ο : Type} (step : σ → ε → σ × ο) (g : Transfers σ) (ep : Nat) (ev : ε)
    (h : g ep = none) : gstep step g ep ev = (g, none) := by
  unfold gstep; simp [h]

/-- **commute**: datagrams of different endpoints can be processed in either order -/
theorem c12_commute {σ ε ο : Type} (step : σ → ε → σ × ο) (g : Transfers σ) (e1 e2 : Nat) (v1 v2 : ε)
    (hne : e1 ≠ e2) :
    (gstep step (gstep step g e1 v1).1 e2 v2).1 = (gstep step (gstep step g e2 v2).1 e1 v1).1 ∧
    (gstep step (gstep step g e1 v1).1 e2 v2).2 = (gstep step g e2 v2).2 ∧
    (gstep step (gstep step g e2 v2).1 e1 v1).2 = (gstep step g e1 v1).2 := by
  have f12 := c12_frame step g e1 e2 v1 (Ne.symm hne)
  have f21 := c12_frame step g e2 e1 v2 hne
  refine ⟨?_, (c12_routing step _ g e2 v2 f12).1, (c12_routing step _ g e1 v1 f21).1⟩
  -- pointwise: at `e1` and at `e2` by routing, elsewhere by frame
  funext e
  by_cases h1 : e = e1
  · subst h1
    rw [c12_frame step _ e2 e v2 hne, (c12_routing step _ g e v1 f21).2]
  · by_cases h2 : e = e2
    · subst h2
      rw [c12_frame step _ e1 e v1 (Ne.symm hne), (c12_routing step _ g e v2 f12).2]
    · rw [c12_frame step _ e2 e v2 h2, c12_frame step _ e1 e v1 h1, c12_frame step _ e1 e v1 h1,
        c12_frame step _ e2 e v2 h2]

/-- the first step of the solo run is what `gstep` does at `ep` -/
theorem solo_cons_gstep {σ ε ο : Type} (step : σ → ε → σ × ο) (g : Transfers σ) (ep : Nat) (ev : ε)
    (rest : List ε) :
    solo step (g ep) (ev :: rest) =
      ((solo step ((gstep step g ep ev).1 ep) rest).1,
        (gstep step g ep ev).2 :: (solo step ((gstep step g ep ev).1 ep) rest).2) := by
  unfold gstep
  cases h : g ep with
  | none => simp only [solo, h]
  | some s => simp only [solo, upd, ↓reduceIte]

/-- **projection**: for every interleaving of the datagrams of any number of endpoints, what transfer `ep`
ends up with, and everything it emits, equals its solo run on the subsequence of its own datagrams -/
theorem c12_projection {σ ε ο : Type} (step : σ → ε → σ × ο) (ep : Nat) :
    ∀ (evs : List (Nat × ε)) (g : Transfers σ),
      (grun step g evs).1 ep = (solo step (g ep) ((evs.filter (fun x => x.1 == ep)).map (·.2))).1 ∧
      ((grun step g evs).2.filter (fun x => x.1 == ep)).map (·.2) =
        (solo step (g ep) ((evs.filter (fun x => x.1 == ep)).map (·.2))).2 := by
  intro evs
  induction evs with
  | nil => exact fun g => ⟨rfl, rfl⟩
  | cons e rest ih =>
    intro g
    obtain ⟨e1, ev⟩ := e
    have ihg := ih (gstep step g e1 ev).1
    simp only [grun, List.filter_cons]
    by_cases he : e1 = ep
    · subst he
      simp only [beq_self_eq_true, ↓reduceIte, List.map_cons, solo_cons_gstep]
      exact ⟨ihg.1, congrArg _ ihg.2⟩
    · rw [c12_frame step g e1 ep ev (Ne.symm he)] at ihg
      simp only [beq_eq_false_iff_ne.mpr he, Bool.false_eq_true, ↓reduceIte]
      exact ihg

/-- **well-formed non-request packets from an endpoint that owns no transfer are answered with an ERROR**
(code 4, from the listening socket) and start nothing — DATA, ACK, OACK and ERROR alike -/
theorem c12_foreign_nonrequest_gets_error (cfg : SrvCfg) (fs : Fs) (largest : Nat) (dgram : Bytes) (p : Packet)
    (hd : decode (dgram.take ((if cfg.singlePort then largest else Gen.maxRequestPacketSize) + 4)) = .ok p)
    (hp : (∃ n d, p = .data n d) ∨ (∃ n, p = .ack n) ∨ (∃ os, p = .oack os) ∨ (∃ c m, p = .error c m)) :
    handleDatagram cfg fs largest dgram = { reply := some (.listener, .error .illegalOperation []), worker := none } := by
  unfold handleDatagram
  simp only [hd]
  rcases hp with ⟨n, d, rfl⟩ | ⟨n, rfl⟩ | ⟨os, rfl⟩ | ⟨c, m, rfl⟩ <;> rfl

/-! non-vacuity: two counters stepped in an interleaved order -/
example : (grun (fun (s : Nat) (e : Nat) => (s + e, s)) (fun ep => if ep < 2 then some 0 else none)
    [(0, 1), (1, 10), (0, 2), (7, 5), (1, 20)]).1 0 = some 3 := by decide

end Tftp
