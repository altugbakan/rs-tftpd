import Tftp.Generated
import Tftp.Model.Basic
import Tftp.Model.Client
import Tftp.Model.Codec
import Tftp.Model.Config
import Tftp.Model.Net
import Tftp.Model.Reassemble
import Tftp.Model.Receiver
import Tftp.Model.ReceiverQ
import Tftp.Model.Sender
import Tftp.Model.Server
import Tftp.Model.Window
import Tftp.Lemmas.Blocks
import Tftp.Lemmas.Codec
import Tftp.Lemmas.CodecRoundTrip
import Tftp.Lemmas.CodecTotal
import Tftp.Lemmas.ConfigGroups
import Tftp.Lemmas.InFlight
import Tftp.Lemmas.Net
import Tftp.Lemmas.NetFree
import Tftp.Lemmas.NetLoss
import Tftp.Lemmas.NetSafety
import Tftp.Lemmas.Receiver
import Tftp.Lemmas.ReceiverQ
import Tftp.Lemmas.Sender
import Tftp.Lemmas.Server
import Tftp.Lemmas.Window
import Tftp.Props.C01
import Tftp.Props.C02
import Tftp.Props.C03
import Tftp.Props.C04
import Tftp.Props.C05
import Tftp.Props.C06
import Tftp.Props.C07
import Tftp.Props.C08
import Tftp.Props.C09
import Tftp.Props.C10
import Tftp.Props.C11
import Tftp.Props.C12
import Tftp.Props.C13
import Tftp.Props.C14
import Tftp.Props.C15
import Tftp.Props.C16
import Tftp.Props.C17
import Tftp.Props.C18
